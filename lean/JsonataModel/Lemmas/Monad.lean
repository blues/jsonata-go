/-
  Lemmas/Monad.lean — reasoning principles for `EvalM N = StateT (Store N) (Except Err)`.
-/
import JsonataModel.Model.Basic

namespace Jsonata

variable {N : Type} {α β : Type}

@[simp] theorem evalM_pure (a : α) (s : Store N) : (pure a : EvalM N α) s = .ok (a, s) := rfl

@[simp] theorem evalM_bind (x : EvalM N α) (f : α → EvalM N β) (s : Store N) :
    (x >>= f) s = match x s with
      | .ok (a, s') => f a s'
      | .error e => .error e := by
  show (x s >>= fun p => f p.1 p.2) = _
  cases x s <;> rfl

@[simp] theorem evalM_map (g : α → β) (x : EvalM N α) (s : Store N) :
    (g <$> x) s = match x s with
      | .ok (a, s') => .ok (g a, s')
      | .error e => .error e := by
  show (x s >>= fun p => pure (g p.1, p.2)) = _
  cases x s <;> rfl

@[simp] theorem evalM_throw (e : Err) (s : Store N) : (throw e : EvalM N α) s = .error e := rfl

/-- `x` returns `a` from every store: it may change the store, it never fails. -/
def Returns (x : EvalM N α) (a : α) : Prop := ∀ s, ∃ s', x s = .ok (a, s')

/-- `ev` computes the store-independent function `p` (it may allocate frames, never fails).
    Unfolds to `∀ a, Returns (ev a) (p a)`, so a `PureEv` hypothesis applied to an argument is a
    `Returns` fact, and a `Returns` fact applied to a store is the `∃ s', …` form. -/
def PureEv (ev : α → EvalM N β) (p : α → β) : Prop :=
  ∀ a s, ∃ s', ev a s = .ok (p a, s')

theorem Returns.pure {a : α} : Returns (pure a : EvalM N α) a := fun s => ⟨s, rfl⟩

theorem Returns.bind {x : EvalM N α} {f : α → EvalM N β} {a : α} {b : β}
    (hx : Returns x a) (hf : Returns (f a) b) : Returns (x >>= f) b := fun s => by
  obtain ⟨s1, h1⟩ := hx s
  obtain ⟨s2, h2⟩ := hf s1
  exact ⟨s2, by rw [evalM_bind, h1]; exact h2⟩

theorem Returns.map {x : EvalM N α} {a : α} (g : α → β) (hx : Returns x a) :
    Returns (g <$> x) (g a) := fun s => by
  obtain ⟨s1, h1⟩ := hx s
  exact ⟨s1, by rw [evalM_map, h1]⟩

end Jsonata
