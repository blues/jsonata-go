/-
  Lemmas/FormatTime.lean — the picture scanner of jxpath.FormatTime on pictures without doubled brackets.

  Such a picture is a list of segments (literal text, marker text) and a literal tail; FormatTime copies the
  literals and replaces each marker by its expansion (`formatTime_segments`).  In namespace `Jsonata.DateText`,
  with its one user.
-/
import JsonataModel.Model.Date

open Jsonata Jsonata.FmtNum Jsonata.Date

namespace Jsonata.DateText

def plain (l : S) : Bool := l.all fun c => c != '[' && c != ']'
/-- the picture with the segments (literal, marker) and the literal `tail` -/
def picOf (segs : List (S × S)) (tail : S) : S := segs.foldr (fun g r => g.1 ++ '[' :: (g.2 ++ ']' :: r)) tail
/-- what it renders to, `txt` expanding the markers -/
def outOf (txt : S → S) (segs : List (S × S)) (tail : S) : S := segs.foldr (fun g r => g.1 ++ txt g.2 ++ r) tail

theorem slice_mid (pic a b c : S) (n : Nat) (hp : pic = a ++ (b ++ c)) (hn : a.length = n) :
    slice pic n (n + b.length) = b := by
  subst hp hn
  rw [slice, ← List.append_assoc, List.take_left' (by simp), List.drop_left]

theorem scanLoop_plain (t : T) (pic : S) : ∀ (l rs : S) (i : Nat) (st : Scan), plain l = true →
    scanLoop t pic i (l ++ rs) st = scanLoop t pic (i + l.length) rs st
  | [], _, _, _, _ => rfl
  | c :: l, rs, i, st, h => by
    simp only [plain, List.all_cons, Bool.and_eq_true, bne_iff_ne] at h
    rw [List.cons_append, scanLoop]
    simp only [scanStep, beq_iff_eq, h.1.1, h.1.2, if_false]
    rw [scanLoop_plain t pic l rs (i + 1) st h.2, List.length_cons, Nat.add_comm l.length, Nat.add_assoc]

/-- one marker: `[`, its text, `]`; the literal text since `st.start` goes out first -/
theorem scanLoop_marker (t : T) (pic pre mk rs txt : S) (st : Scan) (hp : pic = pre ++ '[' :: (mk ++ ']' :: rs))
    (hin : st.inMarker = false) (hmk : plain mk = true) (hne : mk ≠ []) (he : expandMarker t mk = .ok txt) :
    scanLoop t pic pre.length ('[' :: (mk ++ ']' :: rs)) st =
      scanLoop t pic (pre.length + 1 + mk.length + 1) rs
        { st with out := st.out ++ slice pic st.start pre.length ++ txt, start := pre.length + 1 + mk.length + 1,
                  inMarker := false, expanded := true } := by
  have hs : slice pic (pre.length + 1) (pre.length + 1 + mk.length) = mk :=
    slice_mid pic (pre ++ ['[']) mk (']' :: rs) _ (by simp [hp]) (by simp)
  have hi : (pre.length + 1 + mk.length == pre.length + 1) = false := by
    have := List.length_pos_iff.mpr hne
    simp; omega
  rw [scanLoop]
  simp only [scanStep, beq_self_eq_true, if_true, hin, Bool.false_eq_true, if_false]
  rw [scanLoop_plain t pic mk _ _ _ hmk, scanLoop]
  simp only [scanStep, show (']' == '[') = false by decide, Bool.false_eq_true, if_false, beq_self_eq_true, if_true,
    hi, hs, he]

/-- the loop from a segment boundary (`pre` is what has been read): it ends outside a marker, and what it has
    written together with the unread tail is the rendered text -/
theorem scanLoop_segments (t : T) (pic tail : S) (txt : S → S) (htail : plain tail = true) :
    ∀ (segs : List (S × S)) (pre : S) (st : Scan),
      (∀ g ∈ segs, plain g.1 = true ∧ plain g.2 = true ∧ g.2 ≠ []) → (∀ g ∈ segs, expandMarker t g.2 = .ok (txt g.2)) →
      pic = pre ++ picOf segs tail → st.start = pre.length → st.inMarker = false → (segs ≠ [] ∨ st.expanded = true) →
      ∃ st', scanLoop t pic pre.length (picOf segs tail) st = some st' ∧ st'.inMarker = false ∧ st'.expanded = true ∧
        st'.out ++ pic.drop st'.start = st.out ++ outOf txt segs tail
  | [], pre, st, _, _, hp, hs, hin, hex => by
    refine ⟨st, ?_, hin, hex.resolve_left (fun h => h rfl), ?_⟩
    · have := scanLoop_plain t pic tail [] pre.length st htail
      rwa [List.append_nil] at this
    · rw [hs, hp, List.drop_left]; rfl
  | (lit, mk) :: segs, pre, st, hwf, hseg, hp, hs, hin, _ => by
    obtain ⟨hlit, hmk, hne⟩ := hwf (lit, mk) (by simp)
    have he := hseg (lit, mk) (by simp)
    simp only [picOf, outOf, List.foldr_cons] at hp ⊢
    have hsl : slice pic st.start (pre ++ lit).length = lit := by
      rw [hs, List.length_append]; exact slice_mid pic pre lit _ _ hp rfl
    rw [scanLoop_plain t pic lit _ _ _ hlit, ← List.length_append,
      scanLoop_marker t pic (pre ++ lit) mk _ _ st (by rw [hp, List.append_assoc]) hin hmk hne he, hsl]
    obtain ⟨st', h1, h2, h3, h4⟩ := scanLoop_segments t pic tail txt htail segs (pre ++ lit ++ '[' :: (mk ++ [']']))
      { st with out := st.out ++ lit ++ txt mk, start := (pre ++ lit).length + 1 + mk.length + 1, inMarker := false,
                expanded := true }
      (fun g hg => hwf g (by simp [hg])) (fun g hg => hseg g (by simp [hg])) (by simp [hp, picOf]) (by simp; omega) rfl (Or.inr rfl)
    refine ⟨st', ?_, h2, h3, ?_⟩
    · rw [← h1]
      congr 1
      simp
      omega
    · rw [h4]
      simp [outOf]

/-- `segs ≠ []`: with no marker expanded, `formatTime` returns `none` (Model/Date.lean) -/
theorem formatTime_segments (t : T) (pic tail : S) (segs : List (S × S)) (txt : S → S)
    (hp : pic = picOf segs tail)
    (hwf : plain tail = true ∧ segs ≠ [] ∧ ∀ g ∈ segs, plain g.1 = true ∧ plain g.2 = true ∧ g.2 ≠ [])
    (hseg : ∀ g ∈ segs, expandMarker t g.2 = .ok (txt g.2)) :
    formatTime t pic = some (outOf txt segs tail) := by
  obtain ⟨st', h1, h2, h3, h4⟩ := scanLoop_segments t pic tail txt hwf.1 segs [] {} hwf.2.2 hseg hp rfl rfl (Or.inl hwf.2.1)
  rw [← hp] at h1
  simp only [formatTime, List.length_nil] at h1 ⊢
  simp only [h1, h2, h3, Bool.not_true, Bool.or_self, Bool.false_eq_true, if_false, h4]
  rfl

end Jsonata.DateText
