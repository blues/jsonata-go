/-
  Lemmas/Order.lean — what the sorting theorems rest on: the order laws of a number system
  (`LawfulNum`), strict weak orders and the three-way comparators read off them, the lexicographic
  product of comparators, and the stability of `List.mergeSort` under a comparator that is lawful
  on the keys that occur.
-/
import JsonataModel.Model.Values

namespace Jsonata
open NumSys

/-- The order laws of the number type that sorting relies on.  They hold for `Int`
    (proved below) and for IEEE doubles without NaN (trusted, DESIGN.md section 5, item 6). -/
class LawfulNum (N : Type) [NumSys N] : Prop where
  beq_refl : ∀ a : N, beq a a = true
  beq_symm : ∀ a b : N, beq a b = beq b a
  beq_trans : ∀ a b c : N, beq a b = true → beq b c = true → beq a c = true
  lt_irrefl : ∀ a : N, lt a a = false
  lt_asymm : ∀ a b : N, lt a b = true → lt b a = false
  lt_trans : ∀ a b c : N, lt a b = true → lt b c = true → lt a c = true
  trichotomy : ∀ a b : N, lt a b = true ∨ beq a b = true ∨ lt b a = true
  lt_not_beq : ∀ a b : N, lt a b = true → beq a b = false
  lt_congr_left : ∀ a b c : N, beq a b = true → lt a c = lt b c
  lt_congr_right : ∀ a b c : N, beq a b = true → lt c a = lt c b

instance : LawfulNum Int where
  beq_refl a := by simp [NumSys.beq]
  beq_symm a b := by
    show (a == b) = (b == a)
    rw [Bool.eq_iff_iff]
    constructor <;> (intro h; have h' := eq_of_beq h; subst h'; exact beq_self_eq_true _)
  beq_trans a b c := by simp only [NumSys.beq, beq_iff_eq]; omega
  lt_irrefl a := by simp [NumSys.lt]
  lt_asymm a b := by simp only [NumSys.lt, decide_eq_true_eq, decide_eq_false_iff_not]; omega
  lt_trans a b c := by simp only [NumSys.lt, decide_eq_true_eq]; omega
  trichotomy a b := by simp only [NumSys.lt, NumSys.beq, decide_eq_true_eq, beq_iff_eq]; omega
  lt_not_beq a b := by
    simp only [NumSys.lt, NumSys.beq, decide_eq_true_eq]
    intro h
    have : ¬ a = b := by omega
    simp [this]
  lt_congr_left a b c := by simp only [NumSys.beq, beq_iff_eq]; intro h; subst h; rfl
  lt_congr_right a b c := by simp only [NumSys.beq, beq_iff_eq]; intro h; subst h; rfl

/-- `c` is a total preorder comparator on the elements satisfying `P`. -/
structure LawfulCmp {α : Type} (c : α → α → Ordering) (P : α → Prop) : Prop where
  symm : ∀ a b, P a → P b → c b a = (c a b).swap
  trans : ∀ a b d, P a → P b → P d → c a b ≠ .gt → c b d ≠ .gt → c a d ≠ .gt
  /-- equivalent elements compare alike with everything -/
  eq_congr : ∀ a b d, P a → P b → P d → c a b = .eq → c a d = c b d

theorem LawfulCmp.refl {α : Type} {c : α → α → Ordering} {P : α → Prop} (h : LawfulCmp c P)
    (a : α) (ha : P a) : c a a = .eq := by
  have := h.symm a a ha ha
  cases hc : c a a <;> simp [hc] at this ⊢

namespace LawfulCmp
variable {α : Type} {c : α → α → Ordering} {P : α → Prop}

/-- the third law follows from the other two -/
theorem of_symm_trans (symm : ∀ a b, P a → P b → c b a = (c a b).swap)
    (trans : ∀ a b d, P a → P b → P d → c a b ≠ .gt → c b d ≠ .gt → c a d ≠ .gt) : LawfulCmp c P := by
  refine ⟨symm, trans, fun a b d ha hb hd hab => ?_⟩
  have hba : c b a = .eq := by rw [symm a b ha hb, hab]; rfl
  -- `c a d` and `c b d` agree on "not above" and on "not below"
  have h1 : c a d ≠ .gt ↔ c b d ≠ .gt :=
    ⟨trans b a d hb ha hd (by simp [hba]), trans a b d ha hb hd (by simp [hab])⟩
  have h2 : c d a ≠ .gt ↔ c d b ≠ .gt :=
    ⟨fun h => trans d a b hd ha hb h (by simp [hab]), fun h => trans d b a hd hb ha h (by simp [hba])⟩
  rw [symm a d ha hd, symm b d hb hd] at h2
  revert h1 h2
  cases c a d <;> cases c b d <;> simp [Ordering.swap]

theorem lt_of_lt_of_not_gt (h : LawfulCmp c P) {a b d : α} (ha : P a) (hb : P b) (hd : P d)
    (hab : c a b = .lt) (hbd : c b d ≠ .gt) : c a d = .lt := by
  -- were `d` not above `a`, `b` would not be either
  have := h.trans b d a hb hd ha hbd
  rw [h.symm a d ha hd, h.symm a b ha hb, hab] at this
  revert this
  cases c a d <;> simp [Ordering.swap]

end LawfulCmp

/-- `lt` is a strict weak order, given by the total preorder "not after", and `eq` its
    incomparability relation: all that sorting needs of `<` and `=` on numbers, and on strings. -/
structure StrictWeak {α : Type} (eq lt : α → α → Bool) : Prop where
  asymm : ∀ a b, lt a b = true → lt b a = false
  not_lt_trans : ∀ {a b d}, lt b a = false → lt d b = false → lt d a = false
  eq_def : ∀ a b, eq a b = (!lt a b && !lt b a)

namespace StrictWeak
variable {α : Type} {eq lt : α → α → Bool}

theorem flip (h : StrictWeak eq lt) : StrictWeak eq (fun a b => lt b a) :=
  ⟨fun a b => h.asymm b a, fun hba hdb => h.not_lt_trans hdb hba,
   fun a b => (h.eq_def a b).trans (Bool.and_comm _ _)⟩

theorem lawfulCmp (h : StrictWeak eq lt) :
    LawfulCmp (fun a b => if eq a b then .eq else if lt a b then .lt else .gt) (fun _ => True) := by
  have not_gt : ∀ a b, (if eq a b then Ordering.eq else if lt a b then .lt else .gt) ≠ .gt ↔
      lt b a = false := by
    intro a b
    rw [h.eq_def]
    cases hba : lt b a
    · cases lt a b <;> simp
    · simp [h.asymm b a hba]
  refine .of_symm_trans (fun a b _ _ => ?_) (fun a b d _ _ _ => ?_)
  · simp only [h.eq_def]
    cases hab : lt a b
    · cases lt b a <;> rfl
    · rw [h.asymm a b hab]; rfl
  · simp only [not_gt]
    exact h.not_lt_trans

end StrictWeak

theorem LawfulNum.strictWeak {N : Type} [NumSys N] [L : LawfulNum N] : StrictWeak (beq (N := N)) lt where
  asymm := L.lt_asymm
  not_lt_trans {a b d} hba hdb := by
    -- `d < a` would put `b` before `a` or after `d`
    cases hda : lt d a
    · rfl
    · rcases L.trichotomy a b with h | h | h
      · rw [L.lt_trans d a b hda h] at hdb; cases hdb
      · rw [← L.lt_congr_right a b d h, hda] at hdb; cases hdb
      · rw [h] at hba; cases hba
  eq_def a b := by
    rcases L.trichotomy a b with h | h | h
    · rw [h, L.lt_not_beq a b h]; rfl
    · rw [h, L.lt_congr_left a b b h, L.lt_congr_right a b b h, L.lt_irrefl]; rfl
    · rw [h, L.beq_symm, L.lt_not_beq b a h, Bool.not_true, Bool.and_false]

theorem String.strictWeak : StrictWeak (fun a b : String => a == b) (fun a b => decide (a < b)) where
  asymm a b := by simpa using String.lt_asymm
  not_lt_trans := by
    simp only [decide_eq_false_iff_not, String.not_lt]
    exact fun hab hbd => String.le_trans hab hbd
  eq_def a b := by
    rw [Bool.eq_iff_iff]
    simp only [beq_iff_eq, Bool.and_eq_true, Bool.not_eq_true', decide_eq_false_iff_not, String.not_lt]
    exact ⟨fun e => e ▸ ⟨String.le_refl a, String.le_refl a⟩, fun ⟨hba, hab⟩ => String.le_antisymm hab hba⟩

/-- lexicographic product of comparators, one per position of a key tuple -/
def lexCmp {α : Type} : List (α → α → Ordering) → List α → List α → Ordering
  | c :: cs, x :: xs, y :: ys => (c x y).then (lexCmp cs xs ys)
  | _, _, _ => .eq

def Conforms {α : Type} : List (α → Prop) → List α → Prop
  | [], [] => True
  | p :: ps, x :: xs => p x ∧ Conforms ps xs
  | _, _ => False

theorem Conforms.cons_inv {α : Type} {p : α → Prop} {ps : List (α → Prop)} {a : List α}
    (h : Conforms (p :: ps) a) : ∃ x xs, a = x :: xs ∧ p x ∧ Conforms ps xs := by
  cases a with
  | nil => cases h
  | cons x xs => exact ⟨x, xs, rfl, h⟩

theorem lexCmp_lawful {α : Type} (cs : List (α → α → Ordering)) (ps : List (α → Prop))
    (hlen : cs.length = ps.length)
    (hc : ∀ i (h1 : i < cs.length) (h2 : i < ps.length), LawfulCmp cs[i] ps[i]) :
    LawfulCmp (lexCmp cs) (Conforms ps) := by
  induction cs generalizing ps with
  | nil => exact .of_symm_trans (fun _ _ _ _ => rfl) (fun _ _ _ _ _ _ _ _ => by simp [lexCmp])
  | cons c cs ih =>
    cases ps with
    | nil => simp at hlen
    | cons p ps =>
      have h0 : LawfulCmp c p := hc 0 (Nat.zero_lt_succ _) (Nat.zero_lt_succ _)
      have ih := ih ps (Nat.succ.inj hlen) fun i h1 h2 => hc (i + 1) (Nat.succ_lt_succ h1) (Nat.succ_lt_succ h2)
      refine .of_symm_trans (fun a b ha hb => ?_) (fun a b d ha hb hd => ?_) <;>
        obtain ⟨x, xs, rfl, hx, hxs⟩ := ha.cons_inv <;> obtain ⟨y, ys, rfl, hy, hys⟩ := hb.cons_inv
      · simp only [lexCmp, Ordering.swap_then, h0.symm x y hx hy, ih.symm xs ys hxs hys]
      · obtain ⟨z, zs, rfl, hz, hzs⟩ := hd.cons_inv
        simp only [lexCmp, ne_eq, Ordering.then_eq_gt, not_or, not_and]
        rintro ⟨h1, h1'⟩ ⟨h2, h2'⟩
        cases hxy : c x y with
        | gt => exact absurd hxy h1
        | lt => simp [h0.lt_of_lt_of_not_gt hx hy hz hxy h2]
        | eq =>
          rw [h0.eq_congr x y z hx hy hz hxy]
          exact ⟨h2, fun hyz => ih.trans xs ys zs hxs hys hzs (h1' hxy) (h2' hyz)⟩

/-- Sorting by "does not come after" under a comparator of keys that is lawful *on the keys of the
    list* is a stable sort. -/
theorem LawfulCmp.mergeSort_stable {α β : Type} {c : α → α → Ordering} {P : α → Prop} (h : LawfulCmp c P)
    (key : β → α) (l : List β) (hP : ∀ x ∈ l, P (key x)) :
    let le := fun a b => !(c (key b) (key a) == .lt)
    (l.mergeSort le).Pairwise (fun a b => le a b = true) ∧
    (∀ ys : List β, ys.Sublist l → ys.Pairwise (fun a b => le a b = true) → ys.Sublist (l.mergeSort le)) := by
  intro le
  -- the core lemmas ask for a transitive and total `le`: it is so on the subtype of the items
  -- with a lawful key, through which the sort of `l` factors
  let Q := fun x => P (key x)
  let le' : {x // Q x} → {x // Q x} → Bool := fun a b => le a.1 b.1
  have hle : ∀ a b : {x // Q x}, le' a b = true ↔ c (key a.1) (key b.1) ≠ .gt := fun a b => by
    show (!(c (key b.1) (key a.1) == .lt)) = true ↔ _
    rw [h.symm _ _ a.2 b.2]
    cases c (key a.1) (key b.1) <;> simp [Ordering.swap]
  have trans : ∀ a b d, le' a b = true → le' b d = true → le' a d = true := fun a b d => by
    rw [hle, hle, hle]
    exact h.trans _ _ _ a.2 b.2 d.2
  have total : ∀ a b, (le' a b || le' b a) = true := fun a b => by
    rw [Bool.or_eq_true, hle, hle, h.symm _ _ a.2 b.2]
    cases c (key a.1) (key b.1) <;> simp [Ordering.swap]
  have hl : (l.attachWith Q hP).map Subtype.val = l := List.attachWith_map_subtype_val hP
  have hsort : l.mergeSort le = ((l.attachWith Q hP).mergeSort le').map Subtype.val := by
    rw [List.map_mergeSort (s := le) (fun a _ b _ => rfl), hl]
  rw [hsort, List.pairwise_map]
  refine ⟨List.pairwise_mergeSort trans total _, fun ys hsub hpw => ?_⟩
  rw [← hl, List.sublist_map_iff] at hsub
  obtain ⟨ys', hs', rfl⟩ := hsub
  exact (List.sublist_mergeSort trans total (List.pairwise_map.1 hpw) hs').map _

end Jsonata
