/-
  Lemmas/Assoc.lean — association lists keyed by strings, looked up by `find?` on the key.

  The model updates such lists in four ways: `objSet` replaces in place or appends, `bindSyms`
  replaces in place or prepends, `Ext.Reg.set` prepends and filters the old entries out, `objDel`
  filters.  All four are characterised by one equation: a lookup after the update yields the new
  entry under the updated key and what it yielded before under any other key.  Here for `objSet` and
  `objDel`; for `bindSyms` it is `C12.bindSyms_find`, for `Reg.set` `C20.reg_get_set` (their models are
  not imported here).
-/
import JsonataModel.Model.Values

namespace Jsonata

theorem find?_map_key {γ : Type} (key : γ → String) (f : γ → γ) (hf : ∀ g, key (f g) = key g)
    (l : List γ) (k : String) :
    (l.map f).find? (fun g => key g == k) = (l.find? (fun g => key g == k)).map f := by
  rw [List.find?_map]
  congr 2
  funext g
  simp [hf]

variable {β : Type}

theorem find?_map_set {l : List (String × β)} {k : String} (h : l.any (fun p => p.1 == k) = true)
    (k' : String) (v : β) :
    (l.map fun p => if p.1 == k then (k, v) else p).find? (fun p => p.1 == k') =
      if k = k' then some (k, v) else l.find? (fun p => p.1 == k') := by
  refine (find?_map_key (fun p : String × β => p.1) _ (fun p => by split <;> simp_all) l k').trans ?_
  -- what is found under `k'` has the key `k'`
  split
  · subst k'
    obtain ⟨q, hq⟩ := Option.isSome_iff_exists.1 (List.find?_isSome.2 (List.any_eq_true.1 h))
    rw [hq, Option.map_some, if_pos (List.find?_some hq)]
  · rename_i hne
    refine (Option.map_congr fun p hp => ?_).trans Option.map_id'
    have : p.1 = k' := by simpa using List.find?_some hp
    simp [this, Ne.symm hne]

theorem find?_filter_ne (l : List (String × β)) (k k' : String) :
    (l.filter (fun p => p.1 != k)).find? (fun p => p.1 == k') =
      if k = k' then none else l.find? (fun p => p.1 == k') := by
  rw [List.find?_filter]
  split
  · subst k'
    exact List.find?_eq_none.mpr fun p _ => by simp
  · rename_i hne
    congr 1; funext p
    by_cases h : p.1 = k' <;> simp [h, Ne.symm hne]

variable {N : Type}

theorem objGet_eq_find (kvs : List (String × Val N)) (k : String) :
    objGet kvs k = (kvs.find? (fun p => p.1 == k)).map (·.2) := by
  unfold objGet; cases kvs.find? (fun p => p.1 == k) <;> rfl

theorem objGet_cons (p : String × Val N) (kvs : List (String × Val N)) (k : String) :
    objGet (p :: kvs) k = if p.1 == k then some p.2 else objGet kvs k := by
  simp only [objGet, List.find?_cons]; cases p.1 == k <;> rfl

theorem objGet_eq_none_iff_any (kvs : List (String × Val N)) (k : String) :
    objGet kvs k = none ↔ kvs.any (fun p => p.1 == k) = false := by
  rw [objGet_eq_find, Option.map_eq_none_iff, List.find?_eq_none, List.any_eq_false]

theorem objGet_eq_none_iff_not_mem (kvs : List (String × Val N)) (k : String) :
    objGet kvs k = none ↔ k ∉ kvs.map (·.1) := by
  rw [objGet_eq_none_iff_any, List.any_eq_false, List.mem_map]
  exact ⟨fun h ⟨p, hp, hk⟩ => h p hp (by simp [hk]), fun h p hp hk => h ⟨p, hp, by simpa using hk⟩⟩

theorem objGet_append (a b : List (String × Val N)) (k : String) :
    objGet (a ++ b) k = (objGet a k).or (objGet b k) := by
  simp only [objGet_eq_find, List.find?_append, Option.map_or]

theorem objSet_of_objGet_none {kvs : List (String × Val N)} {k : String} (h : objGet kvs k = none)
    (v : Val N) : objSet kvs k v = kvs ++ [(k, v)] := by
  simp [objSet, (objGet_eq_none_iff_any kvs k).1 h]

/-- Go map assignment, then index -/
theorem objGet_objSet (kvs : List (String × Val N)) (k k' : String) (v : Val N) :
    objGet (objSet kvs k v) k' = if k = k' then some v else objGet kvs k' := by
  unfold objSet
  split
  · rename_i h
    rw [objGet_eq_find, find?_map_set h]
    split
    · rfl
    · rw [objGet_eq_find]
  · rename_i h
    rw [objGet_append, objGet_cons]
    by_cases hk : k = k'
    · subst k'
      simp [(objGet_eq_none_iff_any kvs k).2 (Bool.eq_false_iff.2 h)]
    · simp [hk, objGet]

/-- Go `delete`, then index -/
theorem objGet_objDel (kvs : List (String × Val N)) (k k' : String) :
    objGet (objDel kvs k) k' = if k = k' then none else objGet kvs k' := by
  rw [objDel, objGet_eq_find, objGet_eq_find, find?_filter_ne]
  split <;> rfl

end Jsonata
