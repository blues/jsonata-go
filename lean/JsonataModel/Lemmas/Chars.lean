/-
  Lemmas/Chars.lean — the characters of a string, for proofs by evaluation over tables of strings.
-/
namespace Jsonata

/-- `String.toList`, in a form the kernel evaluates quickly.  A string is its UTF-8 bytes, and
    `String.toList` of a literal runs the library's decoder, which is defined by well-founded
    recursion: the kernel needs some 400 steps per short literal.  For 7-bit text the bytes are
    the characters; anything else goes to the decoder.
    Rewrite `s.toList` to `chars s` (`← chars_eq`) before `decide` on a table of strings. -/
def chars (s : String) : List Char :=
  let bs := s.toByteArray.data.toList
  if bs.all (·.toNat < 128) then bs.map fun b => Char.ofNat b.toNat else s.toList

/-- a character whose UTF-8 bytes are all below 128 is its one byte: a longer encoding begins with a
    byte `… + 0xc0` -/
theorem utf8EncodeChar_ascii (c : Char) (h : ∀ b ∈ String.utf8EncodeChar c, b.toNat < 128) :
    (String.utf8EncodeChar c).map (fun b => Char.ofNat b.toNat) = [c] := by
  unfold String.utf8EncodeChar at h ⊢
  simp only [] at h ⊢
  split at h
  · next hv =>
    have : c.val.toNat % 256 = c.toNat := Nat.mod_eq_of_lt (Nat.lt_of_le_of_lt hv (by decide))
    simp only [if_pos hv, List.map_cons, List.map_nil, UInt8.toNat_ofNat', this, Char.ofNat_toNat]
  · exfalso
    repeat' split at h
    all_goals
      have := h _ List.mem_cons_self
      simp only [UInt8.toNat_ofNat'] at this
      omega

theorem chars_eq (s : String) : chars s = s.toList := by
  simp only [chars]
  split
  · next h =>
    rw [← String.utf8Encode_toList, List.utf8Encode, List.toList_data_toByteArray, List.all_eq_true] at h
    rw [← String.utf8Encode_toList, List.utf8Encode, List.toList_data_toByteArray]
    generalize s.toList = l at h ⊢
    induction l with
    | nil => rfl
    | cons c l ih =>
      simp only [List.flatMap_cons, List.mem_append, decide_eq_true_eq] at h
      rw [List.flatMap_cons, List.map_append, utf8EncodeChar_ascii c fun b hb => h b (.inl hb),
        ih fun b hb => decide_eq_true (h b (.inr hb))]
      rfl
  · rfl

end Jsonata
