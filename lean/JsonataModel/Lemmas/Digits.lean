/-
  Lemmas/Digits.lean — numerals of `toBaseAux` read back in any base; decimal digit strings: value,
  length, padding, and FormatNumber on the pictures "1" and "01" (the layouts the date components use).
-/
import JsonataModel.Model.FormatNumber

namespace Jsonata.Digits
open Jsonata Jsonata.Num Jsonata.FmtNum

/-! numerals of `toBaseAux`: those of base 10 (`dig10`), and reading one back in any base -/

/-- the decimal numeral; `n + 1` is the fuel `toBase` passes, so `toBase n 10` unfolds to it -/
def dig10 (n : Nat) : List Char := toBaseAux 10 (n + 1) n []

theorem digitChar_eq : ∀ d, d < 10 → digitChar d = Nat.digitChar d := by decide +kernel
theorem digitChar_val : ∀ d, d < 10 → (digitChar d).toNat - 48 = d := by decide +kernel
theorem digitChar_ne_zero : ∀ d, d < 10 → 0 < d → digitChar d ≠ '0' := by decide +kernel

theorem toBaseAux_eq_toDigitsCore : ∀ (fuel n : Nat) (acc : List Char),
    toBaseAux 10 fuel n acc = Nat.toDigitsCore 10 fuel n acc
  | 0, _, _ => rfl
  | fuel + 1, n, acc => by
    rw [toBaseAux, Nat.toDigitsCore, ← toBaseAux_eq_toDigitsCore fuel, ← digitChar_eq _ (Nat.mod_lt n (by decide))]
    by_cases h : n < 10
    · rw [if_pos h, if_pos (Nat.div_eq_of_lt h), Nat.mod_eq_of_lt h]
    · rw [if_neg h, if_neg (by omega)]

/-- `dig10` is core's decimal numeral, so the lemmas of Init/Data/Nat/ToString apply (`isDig c` unfolds to `c.isDigit`) -/
theorem dig10_eq (n : Nat) : dig10 n = Nat.toDigits 10 n := toBaseAux_eq_toDigitsCore _ _ _

theorem dig10_small (n : Nat) (h : n < 10) : dig10 n = [digitChar n] := by
  simp [dig10, toBaseAux, h]

theorem dig10_step (n : Nat) (h : 10 ≤ n) : dig10 n = dig10 (n / 10) ++ [digitChar (n % 10)] := by
  rw [dig10_eq, dig10_eq, digitChar_eq _ (Nat.mod_lt n (by decide))]
  exact Nat.toDigits_of_base_le (by decide) h

theorem dig10_mul10 (n : Nat) (hn : 0 < n) : dig10 (n * 10) = dig10 n ++ ['0'] := by
  rw [dig10_step (n * 10) (by omega), Nat.mul_div_cancel _ (by decide), Nat.mul_mod_left]; rfl

theorem dig10_mul_pow (n k : Nat) (hn : 0 < n) : dig10 (n * 10 ^ k) = dig10 n ++ List.replicate k '0' := by
  induction k with
  | zero => simp only [Nat.pow_zero, Nat.mul_one, List.replicate_zero, List.append_nil]
  | succ j ih =>
    rw [Nat.pow_succ, ← Nat.mul_assoc, dig10_mul10 _ (Nat.mul_pos hn (Nat.pow_pos (by omega))), ih, List.replicate_succ',
      List.append_assoc]

theorem dig10_isDig (n : Nat) : ∀ c ∈ dig10 n, isDig c = true := fun _ hc =>
  Nat.isDigit_of_mem_toDigits (by decide) (by decide) (dig10_eq n ▸ hc)

theorem isDig_not_sign (c : Char) (h : isDig c = true) : c ≠ '-' ∧ c ≠ '+' := by
  refine ⟨?_, ?_⟩ <;> (intro e; subst e; revert h; decide)

theorem toBaseAux_fold (b : Nat) (hb : 2 ≤ b) (val : Char → Nat) (hval : ∀ d, d < b → val (digitChar d) = d) :
    ∀ (fuel n : Nat) (acc : List Char), n < fuel →
      (toBaseAux b fuel n acc).foldl (fun m c => m * b + val c) 0 = acc.foldl (fun m c => m * b + val c) n
  | 0, n, _, h => by omega
  | fuel + 1, n, acc, h => by
    unfold toBaseAux
    split
    · rename_i hlt
      simp [hval n hlt]
    · have hdiv : n / b < fuel := by
        have : n / b < n := Nat.div_lt_self (by omega) (by omega)
        omega
      rw [toBaseAux_fold b hb val hval fuel (n / b) _ hdiv, List.foldl_cons, hval _ (Nat.mod_lt n (by omega)),
        Nat.mul_comm, Nat.div_add_mod]

theorem dig10_value (n : Nat) : natOfDigits (dig10 n) = n :=
  toBaseAux_fold 10 (by decide) (fun c => c.toNat - 48) digitChar_val (n + 1) n [] (by omega)

theorem dig10_ne_nil (a : Nat) : dig10 a ≠ [] := dig10_eq a ▸ Nat.toDigits_ne_nil

theorem dig10_length (n k : Nat) (hk : 1 ≤ k) : (dig10 n).length ≤ k ↔ n < 10 ^ k :=
  dig10_eq n ▸ Nat.length_toDigits_le_iff (by decide) hk

theorem dig10_head (n : Nat) (hn : 0 < n) : (dig10 n).head? ≠ some '0' := by
  induction n using Nat.base_induction 10 (by decide) with
  | single m hm => rw [dig10_small m hm]; simpa using digitChar_ne_zero m hm hn
  | digit m k hk hm ih =>
    rw [dig10_eq, ← Nat.toDigits_append_toDigits (by decide) hm hk, ← dig10_eq, List.head?_append]
    cases hh : (dig10 m).head? with
    | none => exact absurd (List.head?_eq_none_iff.mp hh) (dig10_ne_nil m)
    | some c => exact fun h => ih hm (hh.trans h)

def padz (k n : Nat) : List Char := List.replicate (k - (dig10 n).length) '0' ++ dig10 n

theorem foldl_zeros (b : Nat) (val : Char → Nat) (hz : val '0' = 0) (k : Nat) (ds : List Char) :
    (List.replicate k '0' ++ ds).foldl (fun m c => m * b + val c) 0 = ds.foldl (fun m c => m * b + val c) 0 := by
  induction k with
  | zero => rfl
  | succ k ih => rw [List.replicate_succ, List.cons_append, List.foldl_cons, hz, Nat.zero_mul]; exact ih

theorem padz_value (k n : Nat) : natOfDigits (padz k n) = n := by
  rw [padz, natOfDigits, foldl_zeros 10 _ rfl]; exact dig10_value n

theorem padz_isDig (k n : Nat) : ∀ c ∈ padz k n, isDig c = true := by
  intro c hc
  rcases List.mem_append.mp hc with h | h
  · rw [List.mem_replicate] at h; rw [h.2]; decide
  · exact dig10_isDig n c h

theorem padz_length (k n : Nat) (hk : 1 ≤ k) (h : n < 10 ^ k) : (padz k n).length = k := by
  have := (dig10_length n k hk).mpr h
  simp [padz]; omega

theorem le_padz_length (k n : Nat) : k ≤ (padz k n).length := by
  rw [padz, List.length_append, List.length_replicate]; omega

theorem padz1_eq (y : Nat) : padz 1 y = dig10 y := by
  have := List.length_pos_iff.mpr (dig10_ne_nil y)
  have h : 1 - (dig10 y).length = 0 := by omega
  simp [padz, h]

theorem year_len (y : Nat) (h1 : 1000 ≤ y) (h2 : y ≤ 9999) : (padz 1 y).length = 4 := by
  have a := (dig10_length y 4 (by omega)).mpr (by omega)
  have b := mt (dig10_length y 3 (by omega)).mp (by omega)
  rw [padz1_eq]
  omega

theorem padz_head (k n : Nat) : ∃ a as, padz k n = a :: as ∧ isDig a = true := by
  obtain ⟨a, as, h⟩ := List.exists_cons_of_ne_nil (l := padz k n) (by simp [padz, dig10_ne_nil])
  exact ⟨a, as, h, padz_isDig k n a (by simp [h])⟩

theorem padz2_shape (n : Nat) (h : n < 100) : ∃ a b, padz 2 n = [a, b] ∧ isDig a = true ∧ isDig b = true := by
  have hl := padz_length 2 n (by omega) (by omega)
  exact ⟨_, _, List.eq_getElem_of_length_eq_two _ hl, padz_isDig 2 n _ (List.getElem_mem _), padz_isDig 2 n _ (List.getElem_mem _)⟩

/-! rendering of an integer through FormatNumber with the pictures "1", "01" (mandatory digits only) -/

def simpleVars (k : Nat) : Vars :=
  { numType := .plain, intGroups := [], groupSize := 0, minInt := k, scaling := k, fracGroups := [], minFrac := 0, maxFrac := 0,
    minExp := 0, prefix_ := [], suffix := [] }

theorem picture_1 : processPicture ['1'] {} false = some (simpleVars 1) := by rfl
theorem picture_01 : processPicture ['0', '1'] {} false = some (simpleVars 2) := by rfl

theorem toBase_nat (a : Nat) : toBase (a : Int) 10 = dig10 a := by
  simp [toBase, dig10]

theorem numberString_eq (a : Nat) (e : Int) (dp : Nat) :
    numberString a e dp =
      let ds := padz (dp + 1) (roundScaled a e dp).toNat
      (ds.take (ds.length - dp), ds.drop (ds.length - dp)) := by
  simp only [numberString, toBase_nat, padz]
  split
  · rfl
  · rw [Nat.sub_eq_zero_of_le (Nat.lt_of_not_le ‹_›), List.replicate_zero, List.nil_append]

theorem numberString_int (a : Nat) : numberString a 0 0 = (dig10 a, []) := by
  simp [numberString_eq, roundScaled, padz1_eq]

theorem formatInteger_simple (k a : Nat) (hk : 1 ≤ k) :
    formatInteger (mapZero {} (dig10 a)) (simpleVars k) {} = padz k a := by
  -- without grouping, `formatInteger` drops the leading zeros and pads to `minInt`
  show List.replicate (k - ((dig10 a).dropWhile (· == '0')).length) '0' ++ (dig10 a).dropWhile (· == '0') = padz k a
  by_cases ha : 0 < a
  · rw [List.dropWhile_beq_eq_self_of_head?_ne (dig10_head a ha), padz]
  · obtain rfl : a = 0 := by omega
    obtain ⟨j, rfl⟩ : ∃ j, k = j + 1 := ⟨k - 1, by omega⟩
    show List.replicate (j + 1) '0' ++ [] = List.replicate j '0' ++ ['0']
    rw [List.append_nil, List.replicate_succ']

theorem formatNumber_simple (pic : List Char) (k : Nat) (hk : 1 ≤ k)
    (hpic : processPicture pic {} false = some (simpleVars k)) (a : Nat) :
    formatNumber (a : Int) 0 false pic {} = some (padz k a) := by
  have hp : pic ≠ [] := by
    rintro rfl
    simp [processPicture, splitAtRune, splitFirst] at hpic
  rw [← formatInteger_simple k a hk]
  simp only [formatNumber, List.isEmpty_eq_false_iff.mpr hp, hpic, simpleVars, Int.natAbs_natCast, bne_self_eq_false,
    Bool.false_and, Bool.false_eq_true, if_false, numberString_int a, List.isEmpty_nil, if_true, List.nil_append,
    List.append_nil]

end Jsonata.Digits
