/-
  Lemmas/LexerProgress.lean — the lexer of Model/Lexer.lean always makes progress.

  `Adv b` is the one invariant of all scanners.  `next_spec` says what `next` guarantees: it never moves left, consumes
  at least one byte for every token other than EOF, and fails only with one of the three unterminated-… errors.  Hence
  lexing terminates, and the parser's measure `R` never grows on `advance` and strictly falls unless the look-ahead is
  EOF.  The position invariant `Inv` is only defined here: Props/C08.lean proves that `nextRune`, `backup`, `accept` and
  `newToken` keep it (`ignore` after a read breaks its third part, so it is an invariant of these primitives, not of `next`).
  Shared by Props/C08 (Compile is total), which restates the headline statements under the same names, and Props/C04
  (reading back a tree needs the loop budgets to suffice).
-/
import JsonataModel.Model.Parser

namespace Jsonata.LexerProgress
open Jsonata Jsonata.Lex Jsonata.Parse

/-- an outcome whose error satisfies `E`, or whose value satisfies `Q`: the form of every guarantee here and in
    Props/C08 (scanners, `next`, `advance`, parser, optimiser) -/
def Post {ε α : Type} (E : ε → Prop) (Q : α → Prop) : Except ε α → Prop
  | .error e => E e
  | .ok x => Q x

section
variable {ε α β : Type} {E : ε → Prop} {Q Q' : α → Prop}

theorem Post.bind {Q' : β → Prop} {m : Except ε α} {f : α → Except ε β} (hm : Post E Q m)
    (hf : ∀ x, Q x → Post E Q' (f x)) : Post E Q' (m >>= f) := by
  cases m with
  | error e => exact hm
  | ok x => exact hf x hm

theorem Post.mono {r : Except ε α} (h : Post E Q r) (hQ : ∀ x, Q x → Q' x) : Post E Q' r := by
  cases r with
  | error e => exact h
  | ok x => exact hQ x h

theorem Post.of_ok {r : Except ε α} {x : α} (h : Post E Q r) (hr : r = .ok x) : Q x := by
  rw [hr] at h; exact h

theorem Post.of_error {r : Except ε α} {e : ε} (h : Post E Q r) (hr : r = .error e) : E e := by
  rw [hr] at h; exact h

end

/-- induction for a loop that counts down a budget `n` while a measure `m` of its state falls on every turn:
    a budget above the measure is never used up -/
theorem fuel_ind {σ : Type} {m : σ → Nat} {P : Nat → σ → Prop}
    (step : ∀ n s, (∀ s', m s' < m s → P n s') → P (n + 1) s) : ∀ n s, m s < n → P n s
  | 0, _, h => absurd h (Nat.not_lt_zero _)
  | n + 1, s, h => step n s fun s' h' => fuel_ind step n s' (Nat.lt_of_lt_of_le h' (Nat.le_of_lt_succ h))

/-! ### a decoded rune lies inside the input and has positive width -/

theorem needBytes_cases (b0 : Nat) :
    needBytes b0 = 0 ∨ needBytes b0 = 2 ∨ needBytes b0 = 3 ∨ needBytes b0 = 4 := by
  unfold needBytes
  split
  · exact Or.inr (Or.inl rfl)
  · split
    · exact Or.inr (Or.inr (Or.inl rfl))
    · split
      · exact Or.inr (Or.inr (Or.inr rfl))
      · exact Or.inl rfl

theorem decodeRune_width (inp : Input) (i : Nat) (h : i < inp.size) :
    1 ≤ (decodeRune inp i).2 ∧ i + (decodeRune inp i).2 ≤ inp.size := by
  have hn := needBytes_cases inp[i].toNat
  unfold decodeRune
  rw [getElem?_pos inp i h]
  simp only []
  generalize needBytes inp[i].toNat = n at hn ⊢
  -- the width is 1, or the number of bytes announced once they are known to fit; `iteInduction` (here and in the
  -- scanners below) is `split` as a term: much cheaper to check on the long conditionals
  have W {c} [Decidable c] {t e} := @iteInduction _ c _ (fun z : Nat × Nat => 1 ≤ z.2 ∧ i + z.2 ≤ inp.size) t e
  have one : 1 ≤ 1 ∧ i + 1 ≤ inp.size := ⟨Nat.le_refl _, h⟩
  refine W (fun _ => one) fun _ => W (fun _ => one) fun hfit => ?_
  have hfit' : n ≠ 0 ∧ i + n ≤ inp.size := by simpa [Nat.not_lt] using hfit
  refine W (fun h2 => W (fun _ => ⟨(by decide : 1 ≤ 2), ?_⟩) fun _ => one) fun h2 =>
    W (fun h3 => W (fun _ => ⟨(by decide : 1 ≤ 3), ?_⟩) fun _ => one) fun h3 =>
      W (fun _ => ⟨(by decide : 1 ≤ 4), ?_⟩) fun _ => one
  · have : n = 2 := by simpa using h2
    omega
  · have : n = 3 := by simpa using h3
    omega
  · have : n ≠ 2 ∧ n ≠ 3 := by simpa using And.intro h2 h3
    omega

/-! ### reads, their undoing by `backup`, and the position invariant -/

/-- the rune at a byte position and its width: what `nextRune` reads there -/
def runeAt (inp : Input) (i : Nat) : Nat := if i ≥ inp.size then eofRune else (decodeRune inp i).1
def widthAt (inp : Input) (i : Nat) : Nat := if i ≥ inp.size then 0 else (decodeRune inp i).2

theorem nextRune_at (inp : Input) (s : LState) :
    (nextRune inp s).1 = runeAt inp s.current ∧ (nextRune inp s).2.current = s.current + widthAt inp s.current ∧
    (nextRune inp s).2.width = widthAt inp s.current ∧ (nextRune inp s).2.start = s.start := by
  unfold nextRune runeAt widthAt
  by_cases hc : s.current ≥ inp.size <;> simp [hc]

theorem runeAt_lt (inp : Input) (i : Nat) (h : runeAt inp i ≠ eofRune) : i < inp.size := by
  unfold runeAt at h
  by_cases hc : i ≥ inp.size
  · simp [hc] at h
  · omega

theorem widthAt_le (inp : Input) (i : Nat) (h : i ≤ inp.size) : i + widthAt inp i ≤ inp.size := by
  unfold widthAt
  by_cases hc : i ≥ inp.size
  · simp only [hc, if_true]; omega
  · simp only [hc, if_false]
    exact (decodeRune_width inp i (by omega)).2

theorem widthAt_pos (inp : Input) (i : Nat) (h : i < inp.size) : 1 ≤ widthAt inp i := by
  unfold widthAt
  rw [if_neg (Nat.not_le.2 h)]
  exact (decodeRune_width inp i h).1

theorem backup_after_next (inp : Input) (s : LState) :
    (backup (nextRune inp s).2).current = s.current := by
  obtain ⟨-, c, w, -⟩ := nextRune_at inp s
  show (nextRune inp s).2.current - (nextRune inp s).2.width = s.current
  omega

/-- the lexer invariant: 0 ≤ start ≤ current ≤ length, and a back-up never leaves the input -/
def Inv (inp : Input) (s : LState) : Prop :=
  s.start ≤ s.current ∧ s.current ≤ inp.size ∧ s.start + s.width ≤ s.current

/-! ### `Adv b`: the primitives, and the loops that cannot fail, stay at or after `b` -/

/-- the position is at or after `b`, even after backing up over the last rune read -/
def Adv (b : Nat) (s : LState) : Prop := b + s.width ≤ s.current

theorem adv_le {b : Nat} {s : LState} (h : Adv b s) : b ≤ s.current := by unfold Adv at h; omega

theorem nextRune_adv (inp : Input) {b : Nat} {s : LState} (h : b ≤ s.current) : Adv b (nextRune inp s).2 := by
  obtain ⟨-, c, w, -⟩ := nextRune_at inp s
  unfold Adv
  omega

theorem backup_adv {b : Nat} {s : LState} (h : Adv b s) : Adv b (backup s) := by
  unfold Adv backup at *; simp; omega

theorem ignore_adv {b : Nat} {s : LState} (h : Adv b s) : Adv b (ignore s) := by
  unfold Adv ignore at *; simpa using h

theorem newToken_adv {b : Nat} (tt : Tok) {s : LState} (h : b ≤ s.current) : Adv b (newToken tt s).2 := by
  unfold Adv newToken; simpa using h

theorem accept_adv (inp : Input) (p : Nat → Bool) {b : Nat} {s : LState} (h : b ≤ s.current) :
    Adv b (accept inp p s).2 := by
  unfold accept
  have hn := nextRune_adv inp h
  simp only []
  split
  · exact hn
  · exact backup_adv hn

/-- the loops start with a read, for which being at or after `b` is enough; only without fuel does the state come back
    as it is -/
theorem acceptAllLoop_adv (inp : Input) (p : Nat → Bool) {b : Nat} :
    ∀ (fuel : Nat) (ok : Bool) {s : LState}, b ≤ s.current → (fuel = 0 → Adv b s) → Adv b (acceptAllLoop inp p fuel ok s).2
  | 0, _, _, _, h0 => h0 rfl
  | f + 1, _, s, h, _ => by
    unfold acceptAllLoop
    have ha := accept_adv inp p h
    simp only []
    split
    · exact acceptAllLoop_adv inp p f _ (adv_le ha) fun _ => ha
    · exact ha

theorem acceptAll_adv (inp : Input) (p : Nat → Bool) {b : Nat} {s : LState} (h : b ≤ s.current) :
    Adv b (acceptAll inp p s).2 :=
  acceptAllLoop_adv inp p _ _ h fun h0 => absurd h0 (Nat.succ_ne_zero _)

theorem scanNameLoop_adv_of_le (inp : Input) {b : Nat} :
    ∀ (fuel : Nat) {s : LState}, b ≤ s.current → (fuel = 0 → Adv b s) → Adv b (scanNameLoop inp fuel s)
  | 0, _, _, h0 => h0 rfl
  | f + 1, s, h, _ => by
    unfold scanNameLoop
    have h1 := nextRune_adv inp h
    exact iteInduction (fun _ => h1) fun _ => iteInduction (fun _ => backup_adv h1) fun _ =>
      iteInduction (fun _ => backup_adv h1) fun _ => scanNameLoop_adv_of_le inp f (adv_le h1) fun _ => h1

theorem scanNameLoop_adv (inp : Input) (b : Nat) (fuel : Nat) (s : LState) (h : Adv b s) :
    Adv b (scanNameLoop inp fuel s) :=
  scanNameLoop_adv_of_le inp fuel (adv_le h) fun _ => h

theorem scanNameLoop_ge (inp : Input) (fuel : Nat) (s : LState) : s.current ≤ (scanNameLoop inp fuel s).current := by
  cases fuel with
  | zero => exact Nat.le_refl _
  | succ f => exact adv_le (scanNameLoop_adv_of_le inp _ (Nat.le_refl _) fun h0 => absurd h0 (Nat.succ_ne_zero f))

/-! ### the delimited scanners (regex, string, quoted name) fail only with a `LexErr`
A `_scans` lemma says that a body loop keeps `Adv b`, a `_lexes` lemma that the scanner does not move left. -/

def LexErr (e : PErr) : Prop :=
  e.type = "ErrUnterminatedRegex" ∨ e.type = "ErrUnterminatedString" ∨ e.type = "ErrUnterminatedName"

theorem scanRegexLoop_scans (inp : Input) {b : Nat} (fuel : Nat) (depth : Int) {s : LState} (h : b ≤ s.current) :
    Post LexErr (Adv b) (scanRegexLoop inp fuel depth s) := by
  induction fuel generalizing depth s with
  | zero => exact Or.inl rfl
  | succ f ih =>
    unfold scanRegexLoop
    have h1 := nextRune_adv inp h
    have again := fun d => ih d (adv_le h1)
    -- a slash (the end, at depth 0); an opening or a closing bracket
    refine iteInduction (fun _ => iteInduction (fun _ => h1) fun _ => again _) fun _ =>
      iteInduction (fun _ => again _) fun _ => iteInduction (fun _ => again _) fun _ => ?_
    -- a backslash takes the next rune with it; the input or the line ends; any other rune
    exact iteInduction (fun _ => iteInduction (fun _ => ih _ (adv_le (nextRune_adv inp (adv_le h1)))) fun _ => Or.inl rfl)
      fun _ => iteInduction (fun _ => Or.inl rfl) fun _ => again _

theorem scanStringLoop_scans (inp : Input) (q : Nat) {b : Nat} (fuel : Nat) {s : LState} (h : b ≤ s.current) :
    Post LexErr (Adv b) (scanStringLoop inp q fuel s) := by
  induction fuel generalizing s with
  | zero => exact Or.inr (Or.inl rfl)
  | succ f ih =>
    unfold scanStringLoop
    have h1 := nextRune_adv inp h
    -- the closing quote; a backslash takes the next rune with it; the input ends; any other rune
    exact iteInduction (fun _ => h1) fun _ =>
      iteInduction (fun _ => iteInduction (fun _ => ih (adv_le (nextRune_adv inp (adv_le h1)))) fun _ => Or.inr (Or.inl rfl))
        fun _ => iteInduction (fun _ => Or.inr (Or.inl rfl)) fun _ => ih (adv_le h1)

theorem scanEscLoop_scans (inp : Input) {b : Nat} (fuel : Nat) {s : LState} (h : b ≤ s.current) :
    Post LexErr (Adv b) (scanEscLoop inp fuel s) := by
  induction fuel generalizing s with
  | zero => exact Or.inr (Or.inr rfl)
  | succ f ih =>
    unfold scanEscLoop
    have h1 := nextRune_adv inp h
    exact iteInduction (fun _ => h1) fun _ => iteInduction (fun _ => Or.inr (Or.inr rfl)) fun _ => ih (adv_le h1)

/-- what follows the body loop of the three delimited scanners: back up over the delimiter, cut the token,
    read the delimiter again -/
theorem closing_adv (inp : Input) {b : Nat} (tt : Tok) (r : Nat) {s : LState} (h : Adv b s) :
    Adv b (ignore (acceptRune inp r (newToken tt (backup s)).2).2) :=
  ignore_adv (accept_adv inp _ (adv_le (newToken_adv tt (adv_le (backup_adv h)))))

theorem scanString_lexes (inp : Input) (q : Nat) (s : LState) :
    Post LexErr (fun r => s.current ≤ r.2.current) (scanString inp q s) := by
  refine (scanStringLoop_scans inp q _ (Nat.le_refl s.current)).bind fun _ hl => ?_
  -- turns the pattern-matching `let`s into projections; left to `exact`, the scanner is evaluated to find the pairs
  simp only []
  exact adv_le (closing_adv inp .string q hl)

theorem scanEscapedName_lexes (inp : Input) (s : LState) :
    Post LexErr (fun r => s.current ≤ r.2.current) (scanEscapedName inp s) := by
  refine (scanEscLoop_scans inp _ (Nat.le_refl s.current)).bind fun _ hl => ?_
  simp only []
  exact adv_le (closing_adv inp .nameEsc 96 hl)

theorem scanRegex_lexes (inp : Input) (s : LState) :
    Post LexErr (fun r => s.current ≤ r.2.current) (scanRegex inp s) := by
  refine (scanRegexLoop_scans inp _ 0 (Nat.le_refl s.current)).bind fun _ hl => ?_
  have a6 := acceptAll_adv inp isRegexFlag (adv_le (closing_adv inp .regex 47 hl))
  simp only []
  split
  · exact adv_le (newToken_adv .eof (adv_le a6))
  · exact adv_le a6

/-! ### where `accept` and `acceptAll` stop -/

theorem accept_fst (inp : Input) (p : Nat → Bool) (s : LState) :
    (accept inp p s).1 = (runeAt inp s.current != eofRune && p (runeAt inp s.current)) := by
  unfold accept
  simp only [(nextRune_at inp s).1]
  split <;> simp [*]

theorem accept_current (inp : Input) (p : Nat → Bool) (s : LState) :
    (accept inp p s).2.current = if (accept inp p s).1 then s.current + widthAt inp s.current else s.current := by
  unfold accept
  simp only []
  split
  · exact (nextRune_at inp s).2.1
  · exact backup_after_next inp s

theorem acceptAllLoop_stops (inp : Input) (p : Nat → Bool) :
    ∀ fuel s, inp.size - s.current < fuel → ∀ ok, (accept inp p (acceptAllLoop inp p fuel ok s).2).1 = false :=
  fuel_ind fun f s ih ok => by
    have a1 := accept_fst inp p s
    have a2 := accept_current inp p s
    unfold acceptAllLoop
    simp only []
    split
    · -- accepted: the rune was not EOF, so the position has moved
      rename_i hacc
      rw [if_pos hacc] at a2
      have hr : runeAt inp s.current ≠ eofRune := fun he => by simp [hacc, he] at a1
      have hlt := runeAt_lt inp _ hr
      have := widthAt_pos inp _ hlt
      exact ih _ (by omega) true
    · -- not accepted: the position is the old one, where the same rune fails again
      rename_i hacc
      rw [if_neg hacc] at a2
      rw [accept_fst, a2, ← a1]
      simpa using hacc

theorem acceptAll_stops (inp : Input) (p : Nat → Bool) (s : LState) : (accept inp p (acceptAll inp p s).2).1 = false :=
  acceptAllLoop_stops inp p _ s (Nat.lt_succ_of_le (Nat.sub_le _ _)) false

/-! ### a number and a name are scanned again from their first rune, and consume it -/

theorem nextRune_backup (inp : Input) (s : LState) : nextRune inp (backup (nextRune inp s).2) = nextRune inp s := by
  unfold nextRune backup
  by_cases hc : s.current ≥ inp.size <;> simp [hc]

theorem isNonZeroDigit_of_ne {c : Nat} (hd : isDigit c = true) (h : c ≠ 48) : isNonZeroDigit c = true := by
  unfold isDigit at hd
  unfold isNonZeroDigit
  simp at hd ⊢
  omega

theorem scanNumber_ge (inp : Input) {s1 : LState} {ch : Nat} (hre : nextRune inp (backup s1) = (ch, s1))
    (hd : isDigit ch = true) (hne : ch ≠ eofRune) : s1.current ≤ (scanNumber inp (backup s1)).2.current := by
  unfold scanNumber acceptRune
  simp only []
  -- the integer part: `0`, or a non-zero digit and more digits
  have hb : s1.current ≤ (if (accept inp (· == 48) (backup s1)).1 = true then (accept inp (· == 48) (backup s1)).2
      else (acceptAll inp isDigit (accept inp isNonZeroDigit (accept inp (· == 48) (backup s1)).2).2).2).current := by
    unfold accept
    simp only [hre]
    by_cases h0 : (ch != eofRune && ch == 48) = true
    · simp only [h0, if_true]
      exact Nat.le_refl _
    · have hnz : (ch != eofRune && isNonZeroDigit ch) = true := by
        simp [hne, isNonZeroDigit_of_ne hd (by simpa [hne] using h0)]
      simp only [h0, Bool.false_eq_true, if_false, hre, hnz, if_true]
      exact adv_le (acceptAll_adv inp isDigit (Nat.le_refl _))
  -- fraction and exponent only read on from there; a dot without digits is given back
  generalize (if (accept inp (· == 48) (backup s1)).1 = true then _ else _ : LState) = s2 at hb ⊢
  have a3 := accept_adv inp (fun x => x == 46) hb
  have a4 := acceptAll_adv inp isDigit (adv_le a3)
  have e1 := fun (s4 : LState) (h4 : Adv s1.current s4) => accept_adv inp (fun c => c == 101 || c == 69) (adv_le h4)
  have e2 := fun (s4 : LState) (h4 : Adv s1.current s4) =>
    acceptAll_adv inp isDigit (adv_le (accept_adv inp (fun c => c == 43 || c == 45) (adv_le (e1 s4 h4))))
  have tok := fun (s5 : LState) (h5 : Adv s1.current s5) => adv_le (newToken_adv .number (adv_le h5))
  split
  · split
    · exact hb
    · split
      · exact tok _ (e2 _ a4)
      · exact tok _ (e1 _ a4)
  · split
    · exact tok _ (e2 _ a3)
    · exact tok _ (e1 _ a3)

theorem scanName_ge (inp : Input) {s1 : LState} {ch : Nat} (hre : nextRune inp (backup s1) = (ch, s1))
    (hne : ch ≠ eofRune) (hws : isWhitespace ch = false) (h1 : symbol1 ch = none) (h2 : symbol2 ch = none) :
    s1.current ≤ (scanName inp (backup s1)).2.current := by
  unfold scanName acceptRune accept
  simp only [hre]
  by_cases hv : (ch != eofRune && ch == 36) = true
  · -- a variable: the `$` is consumed
    simp only [hv, if_true]
    exact scanNameLoop_ge inp _ (ignore s1)
  · -- a name: the first turn of the loop reads the rune
    simp only [hv, Bool.false_eq_true, if_false]
    have hloop : s1.current ≤ (scanNameLoop inp (inp.size + 1) (backup s1)).current := by
      unfold scanNameLoop
      have e0 : (ch == eofRune) = false := by simpa using hne
      simp only [hre, e0, Bool.false_eq_true, if_false, hws, h1, h2, Option.isSome_none, Bool.or_self]
      exact scanNameLoop_ge inp _ _
    split
    · exact hloop
    · exact hloop

/-! ### the lexer makes progress: every token other than EOF consumes at least one byte -/

theorem next_spec (inp : Input) (allowRegex : Bool) (s0 : LState) :
    Post LexErr (fun r => s0.current ≤ r.2.current ∧ (r.1.type ≠ .eof → s0.current < r.2.current ∧ s0.current < inp.size))
      (next inp allowRegex s0) := by
  have hws := acceptAll_stops inp isWhitespace s0
  rw [accept_fst] at hws
  have hge := adv_le (acceptAll_adv inp isWhitespace (Nat.le_refl s0.current))
  unfold next
  simp only []
  generalize hs : ignore (acceptAll inp isWhitespace s0).2 = s
  have hsc : (acceptAll inp isWhitespace s0).2.current = s.current := by rw [← hs]; unfold ignore; rfl
  rw [hsc] at hws hge
  obtain ⟨n1, n2, -⟩ := nextRune_at inp s
  have hre := nextRune_backup inp s
  generalize nextRune inp s = r at n1 n2 hre
  obtain ⟨ch, s1⟩ := r
  simp only [] at n1 n2 hre ⊢
  by_cases heof : (ch == eofRune) = true
  · simp only [heof, if_true]
    exact ⟨by rw [n2]; omega, fun h => absurd rfl h⟩
  · simp only [heof, Bool.false_eq_true, if_false]
    have hne : ch ≠ eofRune := by simpa using heof
    have hlt : s.current < inp.size := runeAt_lt inp _ (by rw [← n1]; exact hne)
    have hw := widthAt_pos inp _ hlt
    have hnotws : isWhitespace ch = false := by
      rw [← n1] at hws
      simpa [hne] using hws
    -- every scanner ends at or after the position behind the first rune
    have hlt0 : s0.current < s1.current := by omega
    refine Post.mono (Q := fun r => s1.current ≤ r.2.current) ?_ fun r hr =>
      ⟨Nat.le_of_lt (Nat.lt_of_lt_of_le hlt0 hr), fun _ => ⟨Nat.lt_of_lt_of_le hlt0 hr, by omega⟩⟩
    refine iteInduction (fun _ => scanRegex_lexes inp (ignore s1)) fun _ => ?_
    cases hsym2 : symbol2 ch with
    | some r2tt =>
      -- a two-rune symbol, or else what its first rune is on its own
      obtain ⟨r2, tt⟩ := r2tt
      have ha := fun tt' => adv_le (newToken_adv tt' (adv_le (accept_adv inp (· == r2) (Nat.le_refl s1.current))))
      by_cases hok : (acceptRune inp r2 s1).1 = true
      · simp only [hok, ↓reduceIte]; exact ha tt
      · simp only [hok, Bool.false_eq_true, ↓reduceIte]
        cases hsym1 : symbol1 ch with
        | some tt1 => exact ha tt1
        | none => simp only [Option.isSome_some, if_true]; exact ha .name
    | none =>
      cases hsym1 : symbol1 ch with
      | some tt1 => exact adv_le (newToken_adv tt1 (Nat.le_refl _))
      | none =>
        -- a string, a number, a quoted name, a name: numbers and names are scanned again from the first rune
        simp only [Option.isSome_none, Bool.false_eq_true, if_false]
        refine iteInduction (fun _ => scanString_lexes inp ch (ignore s1)) fun _ =>
          iteInduction (fun hdig => scanNumber_ge inp hre hdig hne) fun _ => iteInduction (fun _ => scanEscapedName_lexes inp (ignore s1)) fun _ => ?_
        exact scanName_ge inp hre hne hnotws hsym1 hsym2

theorem next_progress (inp : Input) (allowRegex : Bool) (s0 : LState) (t : Token) (s' : LState)
    (h : next inp allowRegex s0 = .ok (t, s')) (hne : t.type ≠ .eof) : s0.current < s'.current :=
  (((next_spec inp allowRegex s0).of_ok h).2 hne).1

theorem next_fewer (inp : Input) (allowRegex : Bool) (s0 : LState) (t : Token) (s' : LState)
    (h : next inp allowRegex s0 = .ok (t, s')) (hne : t.type ≠ .eof) : inp.size - s'.current < inp.size - s0.current := by
  have : s0.current < s'.current ∧ s0.current < inp.size := ((next_spec inp allowRegex s0).of_ok h).2 hne
  omega

/-- lex the whole input (never asking for a regex): tokens up to EOF, a lexical error, or `none`
    when the step budget runs out -/
def lexAll (inp : Input) : Nat → LState → Option (Except PErr (List Token))
  | 0, _ => none
  | n + 1, s =>
    match next inp false s with
    | .error e => some (.error e)
    | .ok (t, s') =>
      if t.type == .eof then some (.ok [t])
      else match lexAll inp n s' with
        | some (.ok ts) => some (.ok (t :: ts))
        | r => r

theorem lexAll_terminates (inp : Input) (n : Nat) (s : LState) (h : inp.size - s.current < n) :
    (lexAll inp n s).isSome = true ∧
    (∀ ts, lexAll inp n s = some (.ok ts) → ts.length ≤ inp.size - s.current + 1) := by
  fun_induction lexAll inp n s
  · omega
  · simp
  · simp
  · -- a token other than EOF: input has been consumed, so what is left of the budget is enough for the rest
    rename_i t s' hn he ts hl ih
    have := next_fewer inp false _ t s' hn (by simpa using he)
    have := (ih (by omega)).2 ts hl
    simp
    omega
  · rename_i t s' hn he hnot ih
    have := next_fewer inp false _ t s' hn (by simpa using he)
    exact ⟨(ih (by omega)).1, fun ts hts => absurd hts (hnot ts)⟩

/-! ### the parser's measure `R` never grows on `advance` -/

/-- tokens that can still be consumed: bytes the lexer has not read, plus the look-ahead token -/
def R (inp : Input) (p : PState) : Nat := (inp.size - p.lex.current) + (if p.tok.type == .eof then 0 else 1)

/-- `advance` fails only as the lexer does, and the new look-ahead token is paid for by the bytes it was read from -/
theorem advance_spec (inp : Input) (ar : Bool) (p : PState) :
    Post LexErr (fun q => R inp q ≤ inp.size - p.lex.current) (advance inp ar p) := by
  unfold advance
  split
  · rename_i t l hn
    show inp.size - l.current + (if t.type == .eof then 0 else 1) ≤ _
    split
    · have : p.lex.current ≤ l.current := ((next_spec inp ar p.lex).of_ok hn).1
      omega
    · rename_i ht
      have := next_fewer inp ar _ t l hn (by simpa using ht)
      omega
  · rename_i e hn
    exact (next_spec inp ar p.lex).of_error hn

theorem advance_R (inp : Input) (ar : Bool) (p q : PState) (h : advance inp ar p = .ok q) :
    R inp q ≤ R inp p ∧ (p.tok.type ≠ .eof → R inp q + 1 ≤ R inp p) := by
  have key : R inp q ≤ inp.size - p.lex.current := (advance_spec inp ar p).of_ok h
  refine ⟨Nat.le_trans key (Nat.le_add_right _ _), fun hp => ?_⟩
  have : R inp p = inp.size - p.lex.current + 1 := by simp [R, hp]
  omega

theorem R_le (inp : Input) (p : PState) : R inp p < inp.size + 2 := by
  unfold R; split <;> omega

end Jsonata.LexerProgress
