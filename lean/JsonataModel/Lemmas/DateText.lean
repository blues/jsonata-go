/-
  Lemmas/DateText.lean — the text layer of $fromMillis / $toMillis (lemmas for C19).

  `format_default`: rendering a broken-down instant through the default picture gives the ISO 8601
  text `isoText`.  `parse_iso`: parsing that text against the layout of the first default parse
  picture gives the fields back.  Both are symbolic in the fields: no bound on the instant other
  than the four-digit year that time.Parse's "2006" element reads.  At the head: `takeDigitsN` and
  `formatInt` (Model/Date.lean) on the numerals of Lemmas/Digits.lean.
-/
import JsonataModel.Lemmas.Digits
import JsonataModel.Lemmas.FormatTime
open Jsonata Jsonata.Num Jsonata.FmtNum Jsonata.Date Jsonata.Digits

namespace Jsonata.DateText

theorem takeDigitsN_padz (k n : Nat) (hk : 1 ≤ k) (h : n < 10 ^ k) (rest : List Char) :
    takeDigitsN k (padz k n ++ rest) = some (n, rest) := by
  have hl := padz_length k n hk h
  have hall : (padz k n).all isDig = true := List.all_eq_true.mpr (padz_isDig k n)
  simp [takeDigitsN, List.take_left' hl, List.drop_left' hl, hl, hall, padz_value]

theorem formatInt_simple (pic : List Char) (k : Nat) (hk : 1 ≤ k)
    (hpic : processPicture pic {} false = some (simpleVars k)) (a : Nat) :
    formatInt (a : Int) pic = .ok (padz k a) := by
  have hneg : decide ((a : Int) < 0) = false := decide_eq_false (by omega)
  unfold formatInt
  rw [hneg, formatNumber_simple pic k hk hpic a]

theorem formatInt_01 (a : Nat) : formatInt (a : Int) ['0', '1'] = .ok (padz 2 a) :=
  formatInt_simple _ 2 (by decide) picture_01 a

theorem formatInt_1 (a : Nat) : formatInt (a : Int) ['1'] = .ok (padz 1 a) :=
  formatInt_simple _ 1 (by decide) picture_1 a

/-- names the `Int` fields of `t` as naturals -/
structure Fields (t : T) (y mo d h mi s ml : Nat) : Prop where
  year : t.year = y
  month : t.month = mo
  day : t.day = d
  hour : t.hour = h
  minute : t.minute = mi
  second : t.second = s
  milli : t.milli = ml

/-- `expandMarker` when nothing goes wrong (`h1`: an empty presentation is replaced by the component's default) -/
theorem expandMarker_ok {t : T} {s out : S} (c : Char) (mk mk1 : Marker) (hp : parseMarker s = some (c, mk))
    (h1 : (if mk.format.isEmpty then { mk with modifier := .none_, format := defaultFormat c } else mk) = mk1)
    (hc : expandComponent t c mk1 = .ok out) : expandMarker t s = .ok out := by
  unfold expandMarker
  simp only [hp, h1, hc]

theorem decimalOnly_01 (n : Nat) : decimalOnly { format := ['0','1'] } n = .ok (padz 2 n) := by
  simp [decimalOnly, isDecimalFormat, isDig, formatIntComponent, formatInt_01]

theorem expand_Y (t : T) (y : Nat) (hy : t.year = y) : expandMarker t ['Y'] = .ok (padz 1 y) :=
  expandMarker_ok 'Y' {} { format := ['1'] } (by rfl) rfl
    (by simp [expandComponent, formatYear, isDecimalFormat, isDig, countDigits, formatIntComponent, hy, formatInt_1])

theorem expand_two (t : T) {s : S} (c : Char) {mk : Marker} {v : Int} {n : Nat} (hp : parseMarker s = some (c, mk))
    (h1 : (if mk.format.isEmpty then { mk with modifier := .none_, format := defaultFormat c } else mk) = { format := ['0','1'] })
    (hc : expandComponent t c { format := ['0','1'] } = decimalOnly { format := ['0','1'] } v) (hv : v = n) :
    expandMarker t s = .ok (padz 2 n) :=
  expandMarker_ok c mk _ hp h1 (by rw [hc, hv, decimalOnly_01])

theorem expand_M (t : T) (n : Nat) (h : t.month = n) : expandMarker t ['M','0','1'] = .ok (padz 2 n) :=
  expand_two t 'M' (by rfl) (by rfl) rfl h

theorem expand_D (t : T) (n : Nat) (h : t.day = n) : expandMarker t ['D','0','1'] = .ok (padz 2 n) :=
  expand_two t 'D' (by rfl) (by rfl) rfl h

theorem expand_H (t : T) (n : Nat) (h : t.hour = n) : expandMarker t ['H','0','1'] = .ok (padz 2 n) :=
  expand_two t 'H' (by rfl) (by rfl) rfl h

theorem expand_m (t : T) (n : Nat) (h : t.minute = n) : expandMarker t ['m'] = .ok (padz 2 n) :=
  expand_two t 'm' (by rfl) (by rfl) rfl h

theorem expand_s (t : T) (n : Nat) (h : t.second = n) : expandMarker t ['s'] = .ok (padz 2 n) :=
  expand_two t 's' (by rfl) (by rfl) rfl h

theorem digits9_eq (n : Nat) : digits9 (n : Int) = padz 9 n := by
  simp [digits9, toBase_nat, padz]

theorem frac3 (ml : Nat) (h : ml < 1000) : (digits9 ((ml : Int) * 1000000)).take 3 = padz 3 ml := by
  have hc : ((ml : Int) * 1000000) = ((ml * 10 ^ 6 : Nat) : Int) := by omega
  rw [hc, digits9_eq]
  by_cases h0 : ml = 0
  · subst h0; decide
  · have hpos : 0 < ml := by omega
    have hp : padz 9 (ml * 10 ^ 6) = padz 3 ml ++ List.replicate 6 '0' := by
      simp only [padz, dig10_mul_pow ml 6 hpos, List.length_append, List.length_replicate]
      have : 9 - ((dig10 ml).length + 6) = 3 - (dig10 ml).length := by omega
      rw [this, List.append_assoc]
    rw [hp, List.take_left' (padz_length 3 ml (by omega) (by omega))]

theorem expand_f (t : T) (ml : Nat) (h : t.milli = ml) (hml : ml < 1000) :
    expandMarker t ['f','0','0','1'] = .ok (padz 3 ml) := by
  have := frac3 ml hml
  exact expandMarker_ok 'f' { format := ['0','0','1'] } { format := ['0','0','1'] } (by rfl) rfl
    (by simp [expandComponent, formatNano, isDecimalFormat, isAllDigits, isDig, h, this])

/-- `[Z01:01t]` of an offset in seconds: `Z`, or sign, hours, `:`, minutes -/
def tzText (off : Int) : S :=
  let hours := Int.tdiv off 3600
  let minutes := Int.tdiv (Int.tmod off 3600) 60
  if hours == 0 && minutes == 0 then ['Z']
  else (if hours < 0 || minutes < 0 then ['-'] else ['+']) ++ padz 2 hours.natAbs ++ [':'] ++ padz 2 minutes.natAbs

theorem style_split : tzStyle ['0','1',':','0','1'] = .split ['0','1'] ['0','1'] [':'] := by rfl

theorem formatTz_split (t : T) :
    formatTz t { format := ['0','1',':','0','1'], modifier := .traditional } false = .ok (tzText t.offset) := by
  unfold formatTz
  simp only [style_split, tzText]
  by_cases hz : (Int.tdiv t.offset 3600 == 0 && Int.tdiv (Int.tmod t.offset 3600) 60 == 0) = true
  · simp [hz, padRight]; rfl
  · simp [hz, formatInt_01, padRight]; rfl

theorem expand_Z (t : T) : expandMarker t ['Z','0','1',':','0','1','t'] = .ok (tzText t.offset) :=
  expandMarker_ok 'Z' { format := ['0','1',':','0','1'], modifier := .traditional } _ (by rfl) rfl (formatTz_split t)

/-- ISO 8601: `Y-MM-DDTHH:MM:SS.mmm`, then the zone -/
def isoText (y mo d h mi s ml : Nat) (off : Int) : S :=
  padz 1 y ++ '-' :: (padz 2 mo ++ '-' :: (padz 2 d ++ 'T' :: (padz 2 h ++ ':' :: (padz 2 mi ++ ':' :: (padz 2 s ++ '.' :: (padz 3 ml ++ tzText off))))))

theorem format_default (t : T) (y mo d h mi s ml : Nat) (F : Fields t y mo d h mi s ml) (hml : ml < 1000) :
    formatTime t defaultPicture = some (isoText y mo d h mi s ml t.offset) := by
  -- the `fun mk` is `txt`, what each marker expands to; in the closing `simpa` the `expand_*` lemmas discharge the
  -- premise `hseg` that `this` still has, and compute `outOf txt`
  have := formatTime_segments t defaultPicture []
    [([], ['Y']), (['-'], ['M','0','1']), (['-'], ['D','0','1']), (['T'], ['H','0','1']), ([':'], ['m']), ([':'], ['s']),
     (['.'], ['f','0','0','1']), ([], ['Z','0','1',':','0','1','t'])]
    (fun mk => ((expandMarker t mk).toOption).getD []) (by decide +kernel) (by decide +kernel)
  simpa [outOf, isoText, expand_Y t y F.year, expand_M t mo F.month, expand_D t d F.day, expand_H t h F.hour,
    expand_m t mi F.minute, expand_s t s F.second, expand_f t ml F.milli hml, expand_Z t, Except.toOption] using this

theorem year_step (y : Nat) (h1 : 1000 ≤ y) (h2 : y ≤ 9999) (rest : S) (its : List LItem) (p : Parsed) :
    parseItems (.year :: its) (padz 1 y ++ rest) p = parseItems its rest { p with year := y } := by
  have hlen := year_len y h1 h2
  have hall : (padz 1 y).all isDig = true := List.all_eq_true.mpr (padz_isDig 1 y)
  have hv := padz_value 1 y
  -- the first of the four bytes is a digit, not a sign
  obtain ⟨c, cs, hp, hc⟩ := padz_head 1 y
  obtain ⟨n1, n2⟩ := isDig_not_sign c hc
  rw [parseItems, List.take_left' hlen, List.drop_left' hlen]
  rw [hp] at hall hv hlen ⊢
  simp [n1, n2, hall, hv, hlen]

theorem lit_step (c : Char) (r : S) (its : List LItem) (p : Parsed) :
    parseItems (.lit c :: its) (c :: r) p = parseItems its r p := by
  simp [parseItems]

theorem month_step (n : Nat) (h1 : 1 ≤ n) (h2 : n ≤ 12) (r : S) (its : List LItem) (p : Parsed) :
    parseItems (.month :: its) (padz 2 n ++ r) p = parseItems its r { p with month := n } := by
  have := takeDigitsN_padz 2 n (by omega) (by omega) r
  rw [parseItems]; simp only [this]
  simp [show ¬ n < 1 by omega, show ¬ n > 12 by omega]

theorem day_step (n : Nat) (h2 : n < 100) (r : S) (its : List LItem) (p : Parsed) :
    parseItems (.day :: its) (padz 2 n ++ r) p = parseItems its r { p with day := n } := by
  have := takeDigitsN_padz 2 n (by omega) (by omega) r
  rw [parseItems]; simp only [this]

theorem minute_step (n : Nat) (h2 : n < 60) (r : S) (its : List LItem) (p : Parsed) :
    parseItems (.minute :: its) (padz 2 n ++ r) p = parseItems its r { p with minute := n } := by
  have := takeDigitsN_padz 2 n (by omega) (by omega) r
  rw [parseItems]; simp only [this]
  simp [show ¬ n ≥ 60 by omega]

/-- the hour is read by `take1or2`, not `takeDigitsN 2` -/
theorem hour_step (n : Nat) (h2 : n < 24) (r : S) (its : List LItem) (p : Parsed) :
    parseItems (.hour :: its) (padz 2 n ++ r) p = parseItems its r { p with hour := n } := by
  obtain ⟨a, b, hp, ha, hb⟩ := padz2_shape n (by omega)
  have hv := padz_value 2 n
  rw [hp] at hv
  rw [parseItems, hp]
  have c : ¬ n ≥ 24 := by omega
  simp [take1or2, ha, hb, hv, c]

theorem tzText_head (off : Int) : ∃ c r, tzText off = c :: r ∧ isDig c = false := by
  unfold tzText
  simp only []
  split
  · exact ⟨'Z', [], rfl, by decide⟩
  · split
    · exact ⟨'-', _, rfl, by decide⟩
    · exact ⟨'+', _, rfl, by decide⟩

theorem fracMillis_padz3 (n : Nat) (h : n < 1000) : fracMillis (padz 3 n) = n := by
  simp [fracMillis, List.take_left' (padz_length 3 n (by omega) (by omega)), padz_value]

/-- `.second` also reads the `.mmm`: time.Parse takes a fraction after the seconds even when the layout has
    none (Model/Date.lean) -/
theorem second_step (n ml : Nat) (h2 : n < 60) (hml : ml < 1000) (off : Int) (p : Parsed) :
    parseItems [.second, .zoneColon] (padz 2 n ++ '.' :: (padz 3 ml ++ tzText off)) p
      = parseItems [.zoneColon] (tzText off) { p with second := n, milli := ml } := by
  have h := takeDigitsN_padz 2 n (by omega) (by omega) ('.' :: (padz 3 ml ++ tzText off))
  obtain ⟨c, r, htz, hc⟩ := tzText_head off
  obtain ⟨a, as, hp3, ha⟩ := padz_head 3 ml
  have htw : ((padz 3 ml ++ c :: r).takeWhile isDig = padz 3 ml) ∧ (padz 3 ml ++ c :: r).dropWhile isDig = c :: r := by
    simp [List.takeWhile_append_of_pos (padz_isDig 3 ml), List.dropWhile_append_of_pos (padz_isDig 3 ml), hc]
  have hfm := fracMillis_padz3 ml hml
  rw [parseItems]; simp only [h]
  have a60 : ¬ n ≥ 60 := by omega
  rw [htz]
  rw [hp3] at htw hfm ⊢
  simp only [List.cons_append] at htw ⊢
  simp [a60, ha, htw, hfm]

theorem offset_parts (off hr mn : Int) (h60 : off % 60 = 0) (hh : hr = Int.tdiv off 3600)
    (hm : mn = Int.tdiv (Int.tmod off 3600) 60) :
    off = (hr * 60 + mn) * 60 ∧ -60 < mn ∧ mn < 60 ∧ (0 ≤ hr ∧ 0 ≤ mn ∨ hr ≤ 0 ∧ mn ≤ 0) := by
  -- restated with `/`, which `omega` knows; that leaves `Int.sign 3600`, an atom to `omega`: hence `s`
  have s : Int.sign 3600 = 1 := rfl
  rw [Int.tmod_def, ← hh, Int.tdiv_eq_ediv_of_dvd (by omega)] at hm
  rw [Int.tdiv_eq_ediv] at hh
  omega

theorem parseZone_colon (neg : Bool) (H M : Nat) (hH : H ≤ 24) (hM : M < 60) (p : Parsed) :
    parseItems [.zoneColon] ((if neg then ['-'] else ['+']) ++ padz 2 H ++ [':'] ++ padz 2 M) p =
      some { p with offset := if neg then -(((H * 60 + M) * 60 : Nat) : Int) else ((H * 60 + M) * 60 : Nat) } := by
  have t1 := takeDigitsN_padz 2 H (by omega) (by omega) (':' :: padz 2 M)
  have t2 := takeDigitsN_padz 2 M (by omega) (by omega) []
  rw [List.append_nil] at t2
  have g : ¬ (24 < H ∨ 60 < M) := by omega
  rw [parseItems]
  cases neg <;> simp [parseZone, t1, t2, g, parseItems]

/-- 90000 s are 25 h: `parseZone` accepts hours up to 24 -/
theorem zone_step (off : Int) (h60 : off % 60 = 0) (hlo : -90000 < off) (hhi : off < 90000) (p : Parsed) :
    parseItems [.zoneColon] (tzText off) p = some { p with offset := off } := by
  obtain ⟨e, hM0, hM1, hs⟩ := offset_parts off _ _ h60 rfl rfl
  unfold tzText
  generalize Int.tdiv off 3600 = hr at *
  generalize Int.tdiv (Int.tmod off 3600) 60 = mn at *
  subst e
  clear h60 -- of no use to `omega` below, and dear
  simp only []
  split
  · rename_i hz
    simp only [Bool.and_eq_true, beq_iff_eq] at hz
    simp [hz.1, hz.2, parseItems, parseZone]
  · rw [parseZone_colon _ _ _ (by omega) (by omega)]
    congr 2
    split <;> rename_i hn <;> simp only [Bool.or_eq_true, decide_eq_true_eq] at hn <;> omega

/-- the first of `defaultParsePictures` -/
def pic1 : S := "[Y]-[M01]-[D01]T[H01]:[m]:[s][Z01:01t]".toList
/-- the layout `time.Parse` gets for `pic1` -/
def items1 : List LItem := [.year, .lit '-', .month, .lit '-', .day, .lit 'T', .hour, .lit ':', .minute, .lit ':', .second, .zoneColon]

theorem parse_iso (y mo d h mi s ml : Nat) (off : Int)
    (hy1 : 1000 ≤ y) (hy2 : y ≤ 9999) (hmo1 : 1 ≤ mo) (hmo2 : mo ≤ 12) (hd : d < 100) (hh : h < 24)
    (hmi : mi < 60) (hs : s < 60) (hml : ml < 1000)
    (h60 : off % 60 = 0) (hlo : -90000 < off) (hhi : off < 90000) :
    parseItems items1 (isoText y mo d h mi s ml off) {} =
      some { year := y, month := mo, day := d, hour := h, minute := mi, second := s, milli := ml, offset := off } := by
  unfold items1 isoText
  rw [year_step y hy1 hy2, lit_step, month_step mo hmo1 hmo2, lit_step, day_step d hd, lit_step,
    hour_step h hh, lit_step, minute_step mi hmi, lit_step, second_step s ml hs hml, zone_step off h60 hlo hhi]

/-- the layout elements `time.Parse` is given for a picture: the reference time rendered through it, `-07` turned
    into `Z07`, read as a layout -/
def pictureItems (pic : S) : Option (List LItem) :=
  (formatTime refTime pic).bind fun l => layoutItems ((minus7 (l.length + 1) l).length + 1) (minus7 (l.length + 1) l)

theorem pictureItems_pic1 : pictureItems pic1 = some items1 := by decide +kernel

theorem parseWith_ok {s pic : S} {items : List LItem} {p : Parsed} {ms : Int} (hi : pictureItems pic = some items)
    (hp : parseItems items s {} = some p) (hm : parsedToMillis p = some ms) : parseWith s pic = .ok ms := by
  obtain ⟨l, hl, hi⟩ := Option.bind_eq_some_iff.mp hi
  simp only [parseWith, hl, hi, hp, hm]

theorem parsedToMillis_valid (p : Parsed) (h1 : 1 ≤ p.day) (h2 : p.day ≤ daysInMonth p.year p.month) :
    parsedToMillis p = some ((daysFromCivil p.year p.month p.day * 86400 + p.hour * 3600 + p.minute * 60 +
      p.second - p.offset) * 1000 + p.milli) := by
  have hday : (decide (p.day < 1) || decide (p.day > daysInMonth p.year p.month)) = false := by
    simp only [Bool.or_eq_false_iff, decide_eq_false_iff_not]; omega
  simp only [parsedToMillis, hday, Bool.false_eq_true, if_false]

theorem foldl_fixed {α β} (f : β → α → β) (b : β) (h : ∀ a, f b a = b) (l : List α) : l.foldl f b = b := by
  induction l with
  | nil => rfl
  | cons a l ih => rw [List.foldl_cons, h, ih]

/-- `$toMillis` without a picture tries the default pictures in turn; a success of the first one decides.
    The picture is a variable `p` here and in `parseWith_ok`: with a closed picture in the statement the kernel,
    comparing `parseWith s p` with the fold's `match`, unfolds `parseWith` first and evaluates the whole
    layout pipeline (`formatTime refTime`, `minus7`, `layoutItems`) on it. -/
theorem toMillis_first {s p : S} {ps : List S} {ms : Int} (hd : defaultParsePictures = p :: ps)
    (h : parseWith s p = .ok ms) : toMillis s [] = .ok ms := by
  unfold toMillis
  rw [hd]
  simp only [List.isEmpty_nil, if_true, List.foldl_cons, h]
  exact foldl_fixed _ _ (fun _ => rfl) _

theorem toMillis_of_items1 {s : S} {p : Parsed} {ms : Int} (hp : parseItems items1 s {} = some p)
    (hm : parsedToMillis p = some ms) : toMillis s [] = .ok ms :=
  toMillis_first (p := pic1) rfl (parseWith_ok pictureItems_pic1 hp hm)

end Jsonata.DateText
