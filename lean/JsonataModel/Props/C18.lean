/-
  Props/C18.lean — property C18: number conversion, rounding and formatting.

  The number is handled through its shortest decimal `m · 10^e` (`NumSys.toDec` / `ofDec`:
  strconv, trusted and cross-checked by the correspondence).  Proved here, for all integers:
  half-even rounding is the nearest integer with ties to even, values that already have at
  most p fraction digits are unchanged, radix numerals read back, grouping separators only
  stand between the digits and removing them gives the digits back, the fixed-point numeral
  reads back as the rounded value with exactly dp fraction digits, exponent normalisation
  preserves mantissa × 10^exponent and terminates with the mantissa in the picture's range
  (the loops that hung for 0 and negative numbers).  PARTIAL (DESIGN.md §6 C18): the
  double ↔ decimal conversions (strconv) are parameters, not theorems.
-/
import JsonataModel.Model.Lib
import JsonataModel.Generated.Facts
import JsonataModel.Lemmas.Digits

namespace Jsonata.Props.C18
open Jsonata Jsonata.Num Jsonata.FmtNum

theorem halfEven_cases (n : Int) (d : Nat) :
    (halfEven n d = n / d ∧ (2 * (n % d) < d ∨ 2 * (n % d) = d ∧ n / d % 2 = 0)) ∨
    (halfEven n d = n / d + 1 ∧ (2 * (n % d) > d ∨ 2 * (n % d) = d ∧ n / d % 2 ≠ 0)) := by
  unfold halfEven
  simp only [beq_iff_eq]
  split
  · exact .inl ⟨rfl, .inl ‹_›⟩
  · split
    · exact .inr ⟨rfl, .inl ‹_›⟩
    · have he : 2 * (n % (d : Int)) = d := Int.le_antisymm (Int.not_lt.mp ‹_›) (Int.not_lt.mp ‹_›)
      split
      · exact .inl ⟨rfl, .inr ⟨he, ‹_›⟩⟩
      · exact .inr ⟨rfl, .inr ⟨he, ‹_›⟩⟩

/-- `halfEven n d` is a nearest integer to n/d … -/
theorem halfEven_nearest (n : Int) (d : Nat) (hd : 0 < d) :
    2 * (halfEven n d * d - n) ≤ d ∧ 2 * (n - halfEven n d * d) ≤ d := by
  have h2 := Int.emod_nonneg n (Int.ne_of_gt (Int.natCast_pos.mpr hd))
  have h3 := Int.emod_lt_of_pos n (Int.natCast_pos.mpr hd)
  have hq := Int.ediv_mul_add_emod n d
  rcases halfEven_cases n d with ⟨h, hr⟩ | ⟨h, hr⟩
  · rw [h]; omega
  · rw [h, Int.add_mul]; omega

/-- … and on a tie it is the even one -/
theorem halfEven_tie_even (n : Int) (d : Nat) (h : 2 * (n % (d : Int)) = d) :
    halfEven n d % 2 = 0 := by
  have := halfEven_cases n d
  omega

/-- an exact multiple is returned unchanged -/
theorem halfEven_exact (k : Int) (d : Nat) (hd : 0 < d) : halfEven (k * d) d = k := by
  have hd' : (0 : Int) < d := Int.natCast_pos.mpr hd
  simp only [halfEven, Int.mul_emod_left, Int.mul_ediv_cancel _ (Int.ne_of_gt hd'), Int.mul_zero, hd', if_true]

/-- a value with at most p fraction digits (e + p ≥ 0) is not changed by rounding to p digits -/
theorem roundScaled_exact (m e p : Int) (h : 0 ≤ e + p) :
    roundScaled m e p = m * 10 ^ (e + p).toNat := by
  simp [roundScaled, h]

/-- rounding is the nearest multiple of 10^(-p): |k − m·10^(e+p)| ≤ 1/2 in units of the last digit -/
theorem roundScaled_nearest (m e p : Int) (h : e + p < 0) :
    let d : Nat := 10 ^ (-(e + p)).toNat
    2 * (roundScaled m e p * d - m) ≤ d ∧ 2 * (m - roundScaled m e p * d) ≤ d := by
  have hs : ¬ (e + p ≥ 0) := by omega
  simp only [roundScaled, hs, if_false]
  exact halfEven_nearest m _ (Nat.pow_pos (by decide))

def valOf (b : Nat) (init : Nat) (ds : List Char) : Nat := ds.foldl (fun n c => n * b + digitVal c) init

theorem digitVal_digitChar : ∀ d, d < 36 → digitVal (digitChar d) = d := by decide +kernel

theorem digitChar_ne_minus : ∀ d, d < 36 → digitChar d ≠ '-' := by decide +kernel

/-- **$formatBase**: the numeral reads back as the integer, for every base 2..36 -/
theorem toBase_reads_back (n : Nat) (b : Nat) (hb : 2 ≤ b) (hb' : b ≤ 36) :
    valOf b 0 (toBaseAux b (n + 1) n []) = n :=
  Digits.toBaseAux_fold b hb digitVal (fun d hd => digitVal_digitChar d (by omega)) (n + 1) n [] (by omega)

/-- a negative integer is the numeral of its absolute value behind a minus sign -/
theorem toBase_sign (n : Int) (b : Nat) :
    toBase n b = if n < 0 then '-' :: toBaseAux b (n.natAbs + 1) n.natAbs [] else toBaseAux b (n.natAbs + 1) n.natAbs [] := rfl

/-- bases outside 2..36 are an error, whatever the number -/
theorem formatBase_bad_radix {N : Type} [NumSys N] (x b : N)
    (h : NumSys.toInt (libRound b 0) < 2 ∨ NumSys.toInt (libRound b 0) > 36) :
    libFormatBase x (some b) = .error (.lib "formatBase") := by
  simp [libFormatBase, h]

def strip (sep : Char) (s : S) : S := s.filter (· != sep)

theorem strip_append (sep : Char) (a b : S) : strip sep (a ++ b) = strip sep a ++ strip sep b := by
  simp [strip]

theorem strip_id (sep : Char) (s : S) (h : ∀ c ∈ s, c ≠ sep) : strip sep s = s := by
  unfold strip
  rw [List.filter_eq_self]
  intro c hc
  simpa using h c hc

theorem strip_insert (sep : Char) (a b : S) : strip sep (a ++ sep :: b) = strip sep (a ++ b) := by
  simp [strip]

theorem sepAtRight_strip (sep : Char) : ∀ (ps : List Nat) (s : S), strip sep (sepAtRight sep ps s) = strip sep s
  | [], _ => rfl
  | n :: ns, s => by
    unfold sepAtRight
    split
    · exact sepAtRight_strip sep ns s
    · rw [strip_insert, strip_append, sepAtRight_strip sep ns, ← strip_append, List.take_append_drop]

/-- no separator is put before the first digit -/
theorem sepAtRight_head (sep : Char) : ∀ (ps : List Nat) (s : S), (sepAtRight sep ps s).head? = s.head?
  | [], _ => rfl
  | n :: ns, s => by
    unfold sepAtRight
    split
    · exact sepAtRight_head sep ns s
    · rename_i h
      cases s with
      | nil => simp at h
      | cons c cs =>
        have hk : ¬ cs.length + 1 - n = 0 := by simp at h; omega
        simp [List.head?_take, hk]

theorem sepAtLeft_strip (sep : Char) : ∀ (ps : List Nat) (c : Nat) (s : S), strip sep (sepAtLeft sep c ps s) = strip sep s
  | [], _, _ => rfl
  | p :: ps, c, s => by
    unfold sepAtLeft
    simp only
    split
    · exact sepAtLeft_strip sep ps c s
    · split
      · rfl
      · rw [strip_insert, strip_append, sepAtLeft_strip sep ps, ← strip_append, List.take_append_drop]

theorem sepEvery_go_strip (sep : Char) (g : Nat) (hg : 0 < g) : ∀ (fuel : Nat) (rs acc : S), rs.length < fuel →
    strip sep (sepEvery.go sep g fuel rs acc) = strip sep (rs.reverse ++ acc)
  | 0, _, _, h => by omega
  | fuel + 1, rs, acc, h => by
    unfold sepEvery.go
    split
    · rfl
    · have hd : (rs.drop g).length < fuel := by rw [List.length_drop]; omega
      rw [sepEvery_go_strip sep g hg fuel _ _ hd, List.cons_append, strip_insert, ← List.append_assoc,
        ← List.reverse_append, List.take_append_drop]

theorem sepEvery_strip (sep : Char) (g : Nat) (s : S) : strip sep (sepEvery sep g s) = strip sep s := by
  unfold sepEvery
  split
  · rfl
  · rename_i h
    have hg : 0 < g := Nat.pos_of_ne_zero fun h0 => by simp [h0] at h
    rw [sepEvery_go_strip sep g hg (s.length + 1) s.reverse [] (by simp), List.reverse_reverse, List.append_nil]

/-- **grouping**: whatever the picture's positions, the formatted integer part is the padded
    digit string with separators added and nothing else -/
theorem formatInteger_digits (s : S) (v : Vars) (f : DecFmt) :
    strip f.grpSep (formatInteger s v f) =
      strip f.grpSep (List.replicate (v.minInt - (s.dropWhile f.isZeroDigit).length) f.zero ++ s.dropWhile f.isZeroDigit) := by
  unfold formatInteger
  split
  · exact sepEvery_strip _ _ _
  · split
    · exact sepAtRight_strip _ _ _
    · rfl

theorem formatFractional_digits (s : S) (v : Vars) (f : DecFmt) :
    strip f.grpSep (formatFractional s v f) =
      strip f.grpSep ((s.reverse.dropWhile f.isZeroDigit).reverse ++
        List.replicate (v.minFrac - (s.reverse.dropWhile f.isZeroDigit).reverse.length) f.zero) := by
  unfold formatFractional
  split
  · exact sepAtLeft_strip _ _ _ _
  · rfl

/-- at least the mandatory integer digits -/
theorem formatInteger_min_digits (s : S) (v : Vars) (f : DecFmt) (hsep : f.zero ≠ f.grpSep)
    (hs : ∀ c ∈ s, c ≠ f.grpSep) : v.minInt ≤ (strip f.grpSep (formatInteger s v f)).length := by
  rw [formatInteger_digits, strip_id]
  · simp only [List.length_append, List.length_replicate]; omega
  · intro c hc
    rcases List.mem_append.mp hc with h | h
    · rw [List.mem_replicate] at h; rw [h.2]; exact hsep
    · exact hs c ((List.dropWhile_sublist _).subset h)

/-- **makeNumberString**: the digits read back as the half-even rounded value, with exactly
    `dp` fraction digits and at least one integer digit -/
theorem numberString_spec (a : Nat) (e : Int) (dp : Nat) :
    let r := numberString a e dp
    valOf 10 0 (r.1 ++ r.2) = (roundScaled a e dp).toNat ∧ r.2.length = dp ∧ 1 ≤ r.1.length := by
  simp only [Digits.numberString_eq]
  generalize (roundScaled (↑a) e ↑dp).toNat = q
  have hl := Digits.le_padz_length (dp + 1) q
  rw [List.take_append_drop, List.length_drop, List.length_take, Nat.min_eq_left (Nat.sub_le ..)]
  refine ⟨?_, by omega, by omega⟩
  rw [valOf, Digits.padz, Digits.foldl_zeros 10 digitVal rfl]
  exact toBase_reads_back q 10 (by decide) (by decide)

/-- normalisation moves the decimal point and the exponent together: mantissa × 10^exponent
    is unchanged (e' + x' = e + x) -/
theorem normalise_preserves (a : Nat) (s : Int) : ∀ (fuel : Nat) (e x : Int),
    (normalise a s fuel e x).1 + (normalise a s fuel e x).2 = e + x
  | 0, _, _ => rfl
  | fuel + 1, e, x => by
    unfold normalise
    split
    · rw [normalise_preserves a s fuel]; omega
    · split
      · rw [normalise_preserves a s fuel]; omega
      · rfl

/-- a mantissa already in range is left alone (no exponent) -/
theorem normalise_in_range (a : Nat) (s : Int) (fuel : Nat) (e x : Int)
    (h1 : ltPow10 a e (s - 1) = false) (h2 : gtPow10 a e s = false) :
    normalise a s (fuel + 1) e x = (e, x) := by
  simp [normalise, h1, h2]

/-! ### the grammar of `$number` -/

def DigitsL (l : List Char) : Prop := l ≠ [] ∧ ∀ c ∈ l, isDig c = true
def NoDigitHead (r : List Char) : Prop := ∀ c, r.head? = some c → isDig c = false

theorem dropWhile_digits_append (ds r : List Char) (hd : ∀ c ∈ ds, isDig c = true) (hr : NoDigitHead r) :
    (ds ++ r).dropWhile isDig = r := by
  rw [List.dropWhile_append_of_pos hd]
  cases r with
  | nil => rfl
  | cons c cs => simp [List.dropWhile, hr c rfl]

theorem digits1_iff (s r : List Char) :
    digits1 s = some r ↔ ∃ ds, DigitsL ds ∧ s = ds ++ r ∧ NoDigitHead r := by
  constructor
  · intro h
    cases s with
    | nil => cases h
    | cons c cs =>
      simp only [digits1] at h
      split at h
      · rename_i hc
        cases h
        refine ⟨c :: cs.takeWhile isDig, ⟨by simp, List.forall_mem_cons.mpr ⟨hc, List.all_eq_true.mp List.all_takeWhile⟩⟩,
          by simp, fun x hx => ?_⟩
        have := List.head?_dropWhile_not isDig cs
        rwa [hx] at this
      · cases h
  · rintro ⟨ds, ⟨hne, hall⟩, rfl, hr⟩
    cases ds with
    | nil => exact absurd rfl hne
    | cons d ds' =>
      have hd : isDig d = true := hall d (by simp)
      simp only [List.cons_append, digits1, hd, if_true, Option.some.injEq]
      exact dropWhile_digits_append ds' r (fun c hc => hall c (List.mem_cons_of_mem _ hc)) hr

/-- the grammar of the statement: optional minus, digits, optional fraction, optional exponent -/
def NumText (s : List Char) : Prop :=
  ∃ sign ip frac expo, s = sign ++ ip ++ frac ++ expo ∧ (sign = [] ∨ sign = ['-']) ∧ DigitsL ip ∧
    (frac = [] ∨ ∃ fp, DigitsL fp ∧ frac = '.' :: fp) ∧
    (expo = [] ∨ ∃ m sg ed, (m = 'e' ∨ m = 'E') ∧ (sg = [] ∨ sg = ['+'] ∨ sg = ['-']) ∧ DigitsL ed ∧ expo = m :: (sg ++ ed))

def ExpoText (expo : List Char) : Prop :=
  expo = [] ∨ ∃ m sg ed, (m = 'e' ∨ m = 'E') ∧ (sg = [] ∨ sg = ['+'] ∨ sg = ['-']) ∧ DigitsL ed ∧ expo = m :: (sg ++ ed)

/-! One lemma per stage of `reNumber`.  A stage strips exactly its piece only if what follows cannot be taken for
    more of it; both directions of `reNumber_iff` get that from the grammar of the pieces to the right. -/

theorem digit_head (ds rest : List Char) (h : DigitsL ds) : ∃ d tl, ds ++ rest = d :: tl ∧ isDig d = true := by
  obtain ⟨hne, hall⟩ := h
  cases ds with
  | nil => exact absurd rfl hne
  | cons d tl => exact ⟨d, tl ++ rest, rfl, hall d (by simp)⟩

theorem stripMinus_iff (s ds rest : List Char) (h : DigitsL ds) :
    stripMinus s = ds ++ rest ↔ ∃ sign, (sign = [] ∨ sign = ['-']) ∧ s = sign ++ (ds ++ rest) := by
  obtain ⟨d, tl, e, hd⟩ := digit_head ds rest h
  rw [e]
  constructor
  · intro hs
    unfold stripMinus at hs
    split at hs
    · exact ⟨['-'], .inr rfl, by rw [hs]; rfl⟩
    · exact ⟨[], .inl rfl, hs⟩
  · rintro ⟨sign, rfl | rfl, rfl⟩
    · simp [stripMinus, (Digits.isDig_not_sign d hd).1]
    · rfl

theorem stripSign_iff (r ds rest : List Char) (h : DigitsL ds) :
    stripSign r = ds ++ rest ↔ ∃ sg, (sg = [] ∨ sg = ['+'] ∨ sg = ['-']) ∧ r = sg ++ (ds ++ rest) := by
  obtain ⟨d, tl, e, hd⟩ := digit_head ds rest h
  obtain ⟨n1, n2⟩ := Digits.isDig_not_sign d hd
  rw [e]
  constructor
  · intro hs
    unfold stripSign at hs
    split at hs
    · exact ⟨['+'], .inr (.inl rfl), by rw [hs]; rfl⟩
    · exact ⟨['-'], .inr (.inr rfl), by rw [hs]; rfl⟩
    · exact ⟨[], .inl rfl, hs⟩
  · rintro ⟨sg, rfl | rfl | rfl, rfl⟩
    · simp [stripSign, n1, n2]
    · rfl
    · rfl

theorem expOk_iff (expo : List Char) : expOk expo = true ↔ ExpoText expo := by
  cases expo with
  | nil => exact ⟨fun _ => .inl rfl, fun _ => rfl⟩
  | cons c r =>
    have h0 : expOk (c :: r) = true ↔ (c = 'e' ∨ c = 'E') ∧ digits1 (stripSign r) = some [] := by
      simp only [expOk]
      cases digits1 (stripSign r) with
      | none => simp
      | some t => cases t <;> simp
    rw [h0]
    constructor
    · rintro ⟨hc, hd⟩
      obtain ⟨ed, hed, hs, _⟩ := (digits1_iff _ _).mp hd
      obtain ⟨sg, hsg, hr⟩ := (stripSign_iff r ed [] hed).mp hs
      exact .inr ⟨c, sg, ed, hc, hsg, hed, by rw [hr, List.append_nil]⟩
    · rintro (h | ⟨m, sg, ed, hm, hsg, hed, h⟩)
      · cases h
      · obtain ⟨rfl, rfl⟩ := List.cons.inj h
        exact ⟨hm, (digits1_iff _ _).mpr ⟨ed, hed,
          (stripSign_iff _ ed [] hed).mpr ⟨sg, hsg, by rw [List.append_nil]⟩, fun _ hc => nomatch hc⟩⟩

theorem expo_head (expo : List Char) (h : ExpoText expo) (c : Char) (hc : expo.head? = some c) :
    isDig c = false ∧ c ≠ '.' := by
  rcases h with rfl | ⟨m, sg, ed, hm, _, _, rfl⟩
  · cases hc
  · cases hc
    rcases hm with rfl | rfl <;> decide

theorem fracStep_iff (s r : List Char) (hr : ∀ c, r.head? = some c → isDig c = false ∧ c ≠ '.') :
    fracStep s = some r ↔ ∃ frac, (frac = [] ∨ ∃ fp, DigitsL fp ∧ frac = '.' :: fp) ∧ s = frac ++ r := by
  unfold fracStep
  split
  · rw [digits1_iff]
    constructor
    · rintro ⟨fp, hfp, rfl, _⟩
      exact ⟨'.' :: fp, .inr ⟨fp, hfp, rfl⟩, rfl⟩
    · rintro ⟨_, rfl | ⟨fp, hfp, rfl⟩, h⟩
      · rw [List.nil_append] at h
        exact absurd rfl (hr '.' (by rw [← h]; rfl)).2
      · exact ⟨fp, hfp, (List.cons.inj h).2, fun c hc => (hr c hc).1⟩
  · rename_i hne
    constructor
    · intro h
      cases h
      exact ⟨[], .inl rfl, rfl⟩
    · rintro ⟨_, rfl | ⟨fp, _, rfl⟩, rfl⟩
      · rfl
      · exact absurd rfl (hne _)

/-- **$number accepts exactly the grammar of the statement** -/
theorem reNumber_iff (s : List Char) : reNumber s = true ↔ NumText s := by
  have h0 : reNumber s = true ↔
      ∃ s2 s3, digits1 (stripMinus s) = some s2 ∧ fracStep s2 = some s3 ∧ expOk s3 = true := by
    unfold reNumber
    cases digits1 (stripMinus s) with
    | none => simp
    | some s2 =>
      cases h2 : fracStep s2 <;> simp [h2]
  rw [h0]
  constructor
  · rintro ⟨s2, s3, h1, h2, h3⟩
    have hexpo := (expOk_iff s3).mp h3
    obtain ⟨frac, hfrac, rfl⟩ := (fracStep_iff s2 s3 (expo_head s3 hexpo)).mp h2
    obtain ⟨ip, hip, hs, _⟩ := (digits1_iff _ _).mp h1
    obtain ⟨sign, hsign, rfl⟩ := (stripMinus_iff s ip _ hip).mp hs
    exact ⟨sign, ip, frac, s3, by simp, hsign, hip, hfrac, hexpo⟩
  · rintro ⟨sign, ip, frac, expo, rfl, hsign, hip, hfrac, hexpo⟩
    have hN : NoDigitHead (frac ++ expo) := by
      rcases hfrac with rfl | ⟨fp, _, rfl⟩
      · exact fun c hc => (expo_head expo hexpo c hc).1
      · intro c hc; cases hc; decide
    refine ⟨frac ++ expo, expo, ?_, (fracStep_iff _ _ (expo_head expo hexpo)).mpr ⟨frac, hfrac, rfl⟩,
      (expOk_iff expo).mpr hexpo⟩
    rw [(stripMinus_iff _ ip (frac ++ expo) hip).mpr ⟨sign, hsign, by simp⟩]
    exact (digits1_iff _ _).mpr ⟨ip, hip, rfl, hN⟩

/-! ### termination of the exponent normalisation (the loops that did not terminate for 0 and negative numbers) -/

theorem ltPow10_iff (a : Nat) (ha : 1 ≤ a) (e k : Int) :
    ltPow10 a e k = true ↔ e < k ∧ a < 10 ^ (k - e).toNat := by
  unfold ltPow10
  by_cases h : e ≥ k
  · have hp : 1 ≤ a * 10 ^ (e - k).toNat := Nat.mul_pos ha (Nat.pow_pos (by decide))
    simp [h]
    omega
  · simp [h]
    omega

theorem gtPow10_iff (a : Nat) (e k : Int) :
    gtPow10 a e k = true ↔ (e ≥ k ∧ a * 10 ^ (e - k).toNat > 1) ∨ (e < k ∧ a > 10 ^ (k - e).toNat) := by
  unfold gtPow10
  by_cases h : e ≥ k
  · simp [h]; omega
  · simp [h]; omega

/-- `a·10^e` is not both below and above a power of ten; the two tests only see the difference `e − k` -/
theorem lt_gt_excl (a : Nat) (ha : 1 ≤ a) (e k e' k' : Int) (hd : e' - k' = e - k)
    (hl : ltPow10 a e k = true) (hg : gtPow10 a e' k' = true) : False := by
  obtain ⟨h1, h2⟩ := (ltPow10_iff a ha e k).mp hl
  have h3 := (gtPow10_iff a e' k').mp hg
  rw [hd, show k' - e' = k - e by omega] at h3
  omega

theorem gt_measure (a D : Nat) (ha : 1 ≤ a) (hD : a < 10 ^ D) (e s : Int) (h : gtPow10 a e s = true) :
    s - e < D := by
  have mono {m : Nat} (h : 10 ^ m < 10 ^ D) : m < D := (Nat.pow_lt_pow_iff_right (by decide)).mp h
  rcases (gtPow10_iff a e s).mp h with ⟨h3, _⟩ | ⟨h3, h4⟩
  · have := mono (m := 0) (Nat.lt_of_le_of_lt ha hD)
    omega
  · have := mono (Nat.lt_trans h4 hD)
    omega

def InRange (a : Nat) (s e : Int) : Prop := ltPow10 a e (s - 1) = false ∧ gtPow10 a e s = false

/-- One induction for both loops: a step up never lands above range and a step down never below, so the direction
    never changes and only the bound of the direction still to go is needed. -/
theorem normalise_reaches_range (a D : Nat) (ha : 1 ≤ a) (hD : a < 10 ^ D) (s : Int) :
    ∀ (fuel : Nat) (e x : Int), (ltPow10 a e (s - 1) = true → s - 1 - e < fuel) →
      (gtPow10 a e s = true → e + D - s < fuel) → InRange a s (normalise a s fuel e x).1
  | 0, e, x, hl, hg => by
    refine ⟨Bool.eq_false_iff.mpr fun h => ?_, Bool.eq_false_iff.mpr fun h => ?_⟩
    · have := ((ltPow10_iff a ha e (s - 1)).mp h).1; have := hl h; omega
    · have := gt_measure a D ha hD e s h; have := hg h; omega
  | fuel + 1, e, x, hl, hg => by
    unfold normalise
    cases h1 : ltPow10 a e (s - 1) with
    | true =>
      have := hl h1
      exact normalise_reaches_range a D ha hD s fuel (e + 1) (x - 1) (fun _ => by omega)
        (fun h => (lt_gt_excl a ha e (s - 1) (e + 1) s (by omega) h1 h).elim)
    | false =>
      cases h2 : gtPow10 a e s with
      | true =>
        have := hg h2
        exact normalise_reaches_range a D ha hD s fuel (e - 1) (x + 1)
          (fun h => (lt_gt_excl a ha (e - 1) (s - 1) e s (by omega) h h2).elim) (fun _ => by omega)
      | false => exact ⟨h1, h2⟩

/-- **Termination of the exponent normalisation.**  For a non-zero mantissa `a` with at most `D`
    digits, scaling factor `s` and starting exponent `e`: with more fuel than
    max(s − 1 − e, e + D − s) the loops stop with the mantissa in the picture's range
    10^(s−1) ≤ a·10^e' ≤ 10^s (and, by `normalise_preserves`, mantissa × 10^exponent unchanged). -/
theorem normalise_terminates (a D : Nat) (ha : 1 ≤ a) (hD : a < 10 ^ D) (s e x : Int) (fuel : Nat)
    (h1 : s - 1 - e < fuel) (h2 : e + D - s < fuel) :
    InRange a s (normalise a s fuel e x).1 :=
  normalise_reaches_range a D ha hD s fuel e x (fun _ => h1) (fun _ => h2)

/-- the fuel the model runs with (800) suffices for every double and every picture with fewer than
    300 mandatory integer digits: |e| ≤ 400 and at most 40 digits cover all finite doubles scaled by 1000 -/
theorem normalise_fuel_800 (a : Nat) (ha : 1 ≤ a) (hD : a < 10 ^ 40) (s e x : Int)
    (hs0 : 0 ≤ s) (hs : s ≤ 300) (he0 : -400 ≤ e) (he1 : e ≤ 400) :
    InRange a s (normalise a s 800 e x).1 :=
  normalise_terminates a 40 ha hD s e x 800 (by omega) (by omega)

theorem countWhere_le (p q : Char → Bool) (h : ∀ c, p c = true → q c = true) (s : S) :
    countWhere p s ≤ countWhere q s := by
  simp only [countWhere, ← List.countP_eq_length_filter]
  exact List.countP_mono_left fun c _ => h c

/-- the mandatory fraction digits never exceed the fraction digits of the picture -/
theorem analyse_minFrac_le_maxFrac (p : Parts) (f : DecFmt) :
    (analyseParts p f).minFrac ≤ (analyseParts p f).maxFrac := by
  have hle := countWhere_le f.isDecimalDigit f.isDigit (fun c h => by simp [DecFmt.isDigit, h]) p.fractional
  simp only [analyseParts]
  generalize countWhere f.isDecimalDigit p.fractional = f0 at *
  generalize countWhere f.isDigit p.fractional = F0 at *
  generalize countWhere f.isDecimalDigit p.integer = m0
  by_cases hA : (m0 == 0 && F0 == 0) = true
  · -- no digit in either part: an integer digit is added, or (exponent picture) both counts are 1
    simp only [hA, if_true]
    split
    · simp
    · simpa using hle
  · -- a fraction digit is added only if there is no integer digit, and then `hA` gives one in the picture
    simp only [if_neg hA]
    split
    · simpa using hle
    · split
      · rename_i h
        simp at h hA
        omega
      · exact hle

/-- the empty picture is an error -/
theorem formatNumber_rejects (m e : Int) (neg : Bool) (f : DecFmt) :
    formatNumber m e neg [] f = none := rfl

/-- ASCII zero digit: the numeral is not remapped -/
theorem mapZero_ascii (f : DecFmt) (s : S) (h : f.zero = '0') : mapZero f s = s := by
  simp [mapZero, h]

def eventsOf (fn : String) : List String := (Generated.numberFuncEvents.lookup fn).getD []

/-- the model's decimal-format defaults (XPath 3.1 §4.7.1).  The number grammar, the defaults and the option names
    are tied to the implementation behaviourally (exhaustive `$number` strings, the option-name sweep and every
    formatted picture go through both), not by reading regular expressions and switch statements from the source -/
theorem decimal_format_defaults :
    let f : FmtNum.DecFmt := {}
    (f.decSep, f.grpSep, f.expSep, f.minus, f.zero, f.digit, f.patSep) = ('.', ',', 'e', '-', '0', '#', ';') ∧
    f.infinity = "Infinity".toList ∧ f.nan = "NaN".toList ∧ f.percent = "%".toList ∧ f.permille = "‰".toList := by
  decide +kernel

/-- rounding and formatting go through the exact decimal (shortest text → big.Rat), the guards
    of $power/$sqrt are present, $formatBase rounds both arguments.  The traces are inlined through
    package-local helpers, so the facts do not depend on how the functions are cut up -/
theorem fact_number_functions :
    (eventsOf "Round").contains "call:FormatFloat" = true ∧ (eventsOf "Round").contains "call:SetString" = true ∧
    (eventsOf "Round").contains "call:DivMod" = true ∧
    (eventsOf "jxpath.FormatNumber").contains "call:FormatFloat" = true ∧
    (eventsOf "jxpath.FormatNumber").contains "call:SetString" = true ∧
    (eventsOf "jxpath.FormatNumber").contains "call:Pow" = false ∧
    (eventsOf "jxpath.FormatNumber").contains "call:DivMod" = true ∧
    (eventsOf "jxpath.FormatNumber").contains "call:AppendFloat" = false ∧
    (eventsOf "Power").contains "call:Pow" = true ∧ (eventsOf "Power").contains "call:IsInf" = true ∧
    (eventsOf "Power").contains "call:IsNaN" = true ∧ (eventsOf "Power").contains "call:Errorf" = true ∧
    (eventsOf "Sqrt").contains "call:Errorf" = true ∧ (eventsOf "Sqrt").contains "call:Sqrt" = true ∧
    ((eventsOf "FormatBase").filter (· == "call:Round")).length = 2 ∧
    (eventsOf "FormatBase").contains "call:FormatInt" = true ∧ (eventsOf "FormatBase").contains "call:Errorf" = true ∧
    (eventsOf "Number").contains "call:MatchString" = true ∧ (eventsOf "Number").contains "call:ParseFloat" = true := by
  decide +kernel

/-! ### non-vacuity and worked values (tests, not theorems) -/

example : halfEven 25 10 = 2 ∧ halfEven 35 10 = 4 ∧ halfEven (-25) 10 = -2 ∧ halfEven 26 10 = 3 ∧ halfEven (-15) 10 = -2 := by decide +kernel
example : roundScaled 49999999999999994 (-17) 0 = 0 := by decide +kernel
example : roundScaled 43065000000000003 (-14) 1 = 4307 := by decide +kernel
example : toBase 255 16 = "ff".toList ∧ toBase (-5) 2 = "-101".toList ∧ toBase 0 7 = "0".toList := by decide +kernel
example : reNumber "-12.5e+3".toList = true ∧ reNumber "1.".toList = false ∧ reNumber "+1".toList = false ∧
    reNumber "".toList = false ∧ reNumber ".5".toList = false ∧ reNumber "1e".toList = false ∧ reNumber " 1".toList = false := by decide +kernel
example : formatNumber 12345678 (-1) false "#,##0.00".toList {} = some "1,234,567.80".toList := by decide +kernel
example : formatNumber 12 0 false "#,###,#0".toList {} = some "12".toList := by decide +kernel
example : formatNumber 5 (-1) false "0.0,0,00".toList {} = some "0.5,0,00".toList := by decide +kernel
example : formatNumber (-125) (-1) true "0.0e0;(0.0e0)".toList {} = some "(1.2e1)".toList := by decide +kernel
example : formatNumber 7 (-2) false "0.################%".toList {} = some "7%".toList := by decide +kernel

end Jsonata.Props.C18
