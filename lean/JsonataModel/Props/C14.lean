/-
  Props/C14.lean — property C14: object construction, grouping and the object functions
  share one object model.  Grouping is a partition law: every item lands in exactly one
  group, groups keep the input order, nothing is dropped or duplicated.
-/
import JsonataModel.Model.Interp
import JsonataModel.Lemmas.Monad
import JsonataModel.Lemmas.Assoc

namespace Jsonata.Props.C14
open Jsonata NumSys

variable {N : Type} [NumSys N]

/-- the pure content of the grouping pass for one computed key: fold `groupAddKey` over the
    item positions `j, j+1, …` whose key strings are `keys` -/
def groupFold (pair : Nat) : Nat → List String → List KeyIdx → Except Err (List KeyIdx)
  | _, [], groups => .ok groups
  | j, k :: ks, groups =>
    match groupAddKey groups k pair j with
    | .ok g => groupFold pair (j + 1) ks g
    | .error e => .error e

/-- the evaluator's loop is that fold whenever the key expression yields strings (it may change
    the store on the way) -/
theorem groupItemsLoop_fold (ev : Option (Val N) → EvalM N (Option (Val N)))
    (kf : Option (Val N) → String) (hev : PureEv ev (fun x => some (.str (kf x))))
    (pair : Nat) (items : List (Option (Val N))) (j : Nat) (groups : List KeyIdx) (s : Store N) :
    ∃ s', groupItemsLoop ev pair j items groups s =
      match groupFold pair j (items.map kf) groups with
      | .ok g => .ok (g, s')
      | .error e => .error e := by
  induction items generalizing j groups s with
  | nil => exact ⟨s, rfl⟩
  | cons x xs ih =>
    obtain ⟨s1, h1⟩ := hev x s
    simp only [groupItemsLoop, evalM_bind, h1, List.map_cons, groupFold]
    cases groupAddKey groups (kf x) pair j with
    | error e => exact ⟨s, rfl⟩
    | ok g => exact ih (j + 1) g s1

/-- the same, with success and failure told apart -/
theorem groupItemsLoop_eq_fold (ev : Option (Val N) → EvalM N (Option (Val N)))
    (kf : Option (Val N) → String) (hev : PureEv ev (fun x => some (.str (kf x))))
    (pair : Nat) (items : List (Option (Val N))) (j : Nat) (groups : List KeyIdx) (s : Store N) :
    (∃ s', groupItemsLoop ev pair j items groups s = .ok (
        (match groupFold pair j (items.map kf) groups with | .ok g => g | .error _ => []), s') ∧
        ∃ g, groupFold pair j (items.map kf) groups = .ok g) ∨
    (∃ e, groupFold pair j (items.map kf) groups = .error e ∧
        groupItemsLoop ev pair j items groups s = .error e) := by
  obtain ⟨s', h⟩ := groupItemsLoop_fold ev kf hev pair items j groups s
  cases hg : groupFold pair j (items.map kf) groups with
  | ok g => exact .inl ⟨s', by rw [h, hg], g, rfl⟩
  | error e => exact .inr ⟨e, rfl, by rw [h, hg]⟩

/-- a key that is not a string is an error -/
theorem group_illegal_key (ev : Option (Val N) → EvalM N (Option (Val N))) (pair j : Nat)
    (x : Option (Val N)) (xs : List (Option (Val N))) (groups : List KeyIdx) (s s1 : Store N)
    (v : Option (Val N)) (hv : ev x s = .ok (v, s1)) (hns : ∀ k, v ≠ some (.str k)) :
    groupItemsLoop ev pair j (x :: xs) groups s = .error (.eval .illegalKey) := by
  simp only [groupItemsLoop, evalM_bind, hv]
  rcases v with _ | v
  · rfl
  · cases v with
    | str k => exact absurd rfl (hns k)
    | _ => rfl

/-- the positions a grouping assigns to key `k` -/
def itemsOf (groups : List KeyIdx) (k : String) : List Nat :=
  match groups.find? (fun g => g.key == k) with
  | some g => g.items
  | none => []

/-- invariant of the fold after the positions `< m` have been processed (all groups made by
    this pair): the group of key `k` holds exactly the positions whose key is `k`, in
    increasing order; no key has two groups; no group is empty -/
structure GroupsOK (kf : Nat → String) (pair m : Nat) (groups : List KeyIdx) : Prop where
  pairs : ∀ g ∈ groups, g.pair = pair
  items : ∀ k, itemsOf groups k = (List.range m).filter (fun j => kf j == k)
  nonempty : ∀ g ∈ groups, g.items ≠ []
  nodup : (groups.map (·.key)).Nodup

theorem groupsOK_empty (kf : Nat → String) (pair : Nat) : GroupsOK kf pair 0 [] :=
  ⟨by simp, by simp [itemsOf], by simp, by simp⟩

theorem itemsOf_groupAddKey (groups g' : List KeyIdx) (key : String) (pair j : Nat)
    (h : groupAddKey groups key pair j = .ok g') (k : String) :
    itemsOf g' k = itemsOf groups k ++ if key == k then [j] else [] := by
  unfold groupAddKey at h
  split at h
  · rename_i hf
    cases h
    unfold itemsOf
    rw [List.find?_append]
    by_cases hk : key = k
    · subst hk; simp [hf]
    · cases groups.find? (fun g => g.key == k) <;> simp [hk]
  · rename_i g0 hf
    split at h
    · cases h
    · cases h
      unfold itemsOf
      rw [find?_map_key (fun g : KeyIdx => g.key) _ (fun g => by split <;> rfl)]
      cases hfk : groups.find? (fun g => g.key == k) with
      | none =>
        have : key ≠ k := fun e => by subst e; rw [hf] at hfk; cases hfk
        simp [this]
      | some g =>
        have hg : g.key = k := by simpa using List.find?_some hfk
        by_cases hk : key = k
        · subst hk; simp [hg]
        · simp [hg, hk, Ne.symm hk]

/-- one step of the fold preserves the invariant and never fails within one pair -/
theorem groupAddKey_ok (kf : Nat → String) (pair m : Nat) (groups : List KeyIdx)
    (h : GroupsOK kf pair m groups) :
    ∃ g', groupAddKey groups (kf m) pair m = .ok g' ∧ GroupsOK kf pair (m + 1) g' := by
  have hitems : ∀ g', groupAddKey groups (kf m) pair m = .ok g' → ∀ k,
      itemsOf g' k = (List.range (m + 1)).filter (fun j => kf j == k) := fun g' hg' k => by
    rw [itemsOf_groupAddKey groups g' (kf m) pair m hg' k, h.items k, List.range_succ, List.filter_append,
      List.filter_cons, List.filter_nil]
  unfold groupAddKey at hitems ⊢
  cases hf : groups.find? (fun g => g.key == kf m) with
  | none =>
    simp only [hf] at hitems
    refine ⟨_, rfl, List.forall_mem_append.2 ⟨h.pairs, by simp⟩, hitems _ rfl,
      List.forall_mem_append.2 ⟨h.nonempty, by simp⟩, ?_⟩
    rw [List.map_append, List.nodup_append]
    refine ⟨h.nodup, by simp, ?_⟩
    simp only [List.mem_map, List.map_cons, List.map_nil, List.mem_singleton]
    rintro _ ⟨g, hg, rfl⟩ _ rfl
    simpa using List.find?_eq_none.mp hf g hg
  | some g0 =>
    have hp : (g0.pair != pair) = false := by simp [h.pairs g0 (List.mem_of_find?_eq_some hf)]
    simp only [hf, hp, Bool.false_eq_true, if_false] at hitems ⊢
    refine ⟨_, rfl, List.forall_mem_map.2 fun g hg => ?_, hitems _ rfl, List.forall_mem_map.2 fun g hg => ?_, ?_⟩
    · split <;> exact h.pairs g hg
    · split <;> simp [h.nonempty g hg]
    · rw [List.map_map, List.map_congr_left (g := (·.key)) fun g _ => by simp only [Function.comp]; split <;> rfl]
      exact h.nodup

/-- **Grouping is a partition.** Folding any number of items (one computed key pair) never
    fails and yields: one group per distinct key, and the group of key `k` holds exactly the
    positions of the items whose key is `k`, in input order. -/
theorem groupFold_partition (kf : Nat → String) (pair n m : Nat) (groups : List KeyIdx)
    (h : GroupsOK kf pair m groups) :
    ∃ g', groupFold pair m ((List.range' m n).map kf) groups = .ok g' ∧ GroupsOK kf pair (m + n) g' := by
  induction n generalizing m groups with
  | zero => exact ⟨groups, by simp [groupFold], by simpa using h⟩
  | succ n ih =>
    obtain ⟨g1, hg1, hok1⟩ := groupAddKey_ok kf pair m groups h
    obtain ⟨g2, hg2, hok2⟩ := ih (m + 1) g1 hok1
    exact ⟨g2, by simp [List.range'_succ, groupFold, hg1, hg2], (by omega : m + 1 + n = m + (n + 1)) ▸ hok2⟩

/-- every item lands in exactly one group, exactly once -/
theorem group_each_item_once (kf : Nat → String) (pair n : Nat) (groups : List KeyIdx)
    (h : GroupsOK kf pair n groups) (j : Nat) (hj : j < n) :
    (itemsOf groups (kf j)).count j = 1 ∧ ∀ k, k ≠ kf j → j ∉ itemsOf groups k := by
  constructor
  · rw [h.items, List.count_filter (by simp), List.nodup_range.count, if_pos (List.mem_range.2 hj)]
  · intro k hk
    rw [h.items, List.mem_filter]
    exact fun hc => hk (eq_of_beq hc.2).symm

/-- positions inside a group are strictly increasing (input order is kept) -/
theorem group_order (kf : Nat → String) (pair n : Nat) (groups : List KeyIdx)
    (h : GroupsOK kf pair n groups) (k : String) :
    (itemsOf groups k).Pairwise (· < ·) := by
  rw [h.items]
  exact (List.pairwise_lt_range).filter _

/-- two different key/value pairs producing one key is an error -/
theorem group_duplicate_key (groups : List KeyIdx) (g : KeyIdx) (key : String) (pair j : Nat)
    (hf : groups.find? (fun g => g.key == key) = some g) (hp : g.pair ≠ pair) :
    groupAddKey groups key pair j = .error (.eval .duplicateKey) := by
  simp [groupAddKey, hf, hp]

/-- a literal key used twice is an error -/
theorem literal_duplicate_key (r : Rec N) (env : Nat) (items : List (Option (Val N))) (i : Nat)
    (key : String) (v : Node N) (rest : List (Node N × Node N)) (groups : List KeyIdx) (s : Store N)
    (h : groups.any (fun g => g.key == key) = true) :
    groupPairsLoop r env items i ((.str key, v) :: rest) groups s = .error (.eval .duplicateKey) := by
  simp [groupPairsLoop, h]

/-- `$keys` of an object lists its member names in order (each exactly once when the object has no
    duplicate keys) -/
theorem keys_object (kvs : List (String × Val N)) : keysOf (.obj kvs) = kvs.map (·.1) := by
  simp [keysOf]

theorem dedupStr_spec (ks seen : List String) :
    (dedupStr ks seen).Nodup ∧ ∀ k, k ∈ dedupStr ks seen ↔ k ∈ ks ∧ k ∉ seen := by
  fun_induction dedupStr ks seen with
  | case1 => simp
  | case2 a as seen hc ih =>
    have ha : a ∈ seen := by simpa using hc
    refine ⟨ih.1, fun k => ?_⟩
    rw [ih.2, List.mem_cons]
    by_cases hk : k = a <;> simp [hk, ha]
  | case3 a as seen hc ih =>
    have ha : a ∉ seen := by simpa using hc
    refine ⟨List.nodup_cons.2 ⟨fun h => ((ih.2 a).1 h).2 List.mem_cons_self, ih.1⟩, fun k => ?_⟩
    rw [List.mem_cons, ih.2, List.mem_cons, List.mem_cons]
    by_cases hk : k = a <;> simp [hk, ha]

/-- `$keys` of an array: each distinct member name exactly once, none missing -/
theorem keys_array_nodup_complete (xs : List (Val N)) :
    (keysOf (.arr xs)).Nodup ∧ ∀ k, k ∈ keysOf (.arr xs) ↔ k ∈ keysOfL xs := by
  simpa [keysOf] using dedupStr_spec (keysOfL xs) []

/-- `$spread` yields one single-member object per member -/
theorem spread_object (kvs : List (String × Val N)) :
    spreadOf (.obj kvs) = .inr (kvs.map fun p => .obj [p]) := by
  simp [spreadOf, spreadItems]

theorem spread_count_eq_keys_count (kvs : List (String × Val N)) :
    (spreadItems (.obj kvs)).length = (keysOf (.obj kvs)).length := by
  simp [spreadItems, keysOf]

theorem libMerge_arr (xs : List (Val N)) (h : xs.all Val.isObj = true) :
    libMerge (N := N) (.arr xs) = .ok (some (.obj (xs.foldl mergeInto []))) := by
  simp [libMerge, h]

/-- jlib mergeMap: under each key the last member of `b` wins, other keys keep what `acc` had -/
theorem objGet_foldl_objSet (b acc : List (String × Val N)) (k : String) :
    objGet (b.foldl (fun a p => objSet a p.1 p.2) acc) k = (objGet b.reverse k).or (objGet acc k) := by
  induction b generalizing acc with
  | nil => rfl
  | cons p ps ih =>
    rw [List.foldl_cons, ih, objGet_objSet, List.reverse_cons, objGet_append, Option.or_assoc]
    congr 1
    rw [objGet_cons]
    by_cases hk : p.1 = k <;> simp [objGet, hk]

theorem objGet_reverse (kvs : List (String × Val N)) (hnd : (kvs.map (·.1)).Nodup) (k : String) :
    objGet kvs.reverse k = objGet kvs k := by
  induction kvs with
  | nil => rfl
  | cons p ps ih =>
    rw [List.map_cons, List.nodup_cons] at hnd
    rw [List.reverse_cons, objGet_append, ih hnd.2, objGet_cons, objGet_cons]
    by_cases hk : p.1 = k
    · simp [(objGet_eq_none_iff_not_mem ps k).2 (hk ▸ hnd.1), hk]
    · simp [hk, objGet]

/-- `$merge` of two objects: the second takes precedence -/
theorem merge_later_wins (a b : List (String × Val N)) (k : String) (v : Val N)
    (hb : objGet b k = some v) (hnd : (b.map (·.1)).Nodup) :
    ∃ m, libMerge (N := N) (.arr [.obj a, .obj b]) = .ok (some (.obj m)) ∧ objGet m k = some v := by
  refine ⟨_, libMerge_arr _ (by simp [Val.isObj]), ?_⟩
  simp only [List.foldl_cons, List.foldl_nil, mergeInto]
  rw [objGet_foldl_objSet, objGet_reverse b hnd, hb]
  rfl

theorem foldl_objSet_fresh (rest acc : List (String × Val N)) (h : ((acc ++ rest).map (·.1)).Nodup) :
    rest.foldl (fun a p => objSet a p.1 p.2) acc = acc ++ rest := by
  induction rest generalizing acc with
  | nil => simp
  | cons p ps ih =>
    rw [List.map_append, List.map_cons] at h
    have hp := (objGet_eq_none_iff_not_mem acc p.1).2 fun hm => (List.nodup_append.1 h).2.2 _ hm _ List.mem_cons_self rfl
    rw [List.foldl_cons, objSet_of_objGet_none hp, ih _ (by simpa using h), List.append_assoc]
    rfl

/-- `$merge($spread(o)) = o` for an object without duplicate keys -/
theorem merge_spread_id (kvs : List (String × Val N)) (hnd : (kvs.map (·.1)).Nodup) :
    libMerge (N := N) (.arr (spreadItems (.obj kvs))) = .ok (some (.obj kvs)) := by
  have hall : (spreadItems (Val.obj kvs)).all Val.isObj = true := by
    simp [spreadItems, List.all_map, Val.isObj]
  rw [libMerge_arr _ hall]
  congr 3
  simpa [spreadItems, List.foldl_map, mergeInto] using foldl_objSet_fresh kvs [] (by simpa using hnd)

/-- `$lookup(o, k)` is the field selection of `k` on `o` -/
theorem lookup_eq_field (r : Rec N) (v : Option (Val N)) (k : String) (s : Store N) :
    builtinImpl r "lookup" [v, some (.str k)] s = .ok (evalName k v, s) := by
  rfl

example : groupFold 0 0 ["p", "q", "p"] [] =
    .ok [{ key := "p", pair := 0, items := [0, 2] }, { key := "q", pair := 0, items := [1] }] := by
  rfl

end Jsonata.Props.C14
