/-
  Props/C01.lean — property C01: paths map over sequences, flatten one level and
  normalise empty / singleton results.  Every statement is for all step
  evaluators, all numbers of steps and all documents.
-/
import JsonataModel.Model.Interp
import JsonataModel.Spec.Path
import JsonataModel.Lemmas.Monad

namespace Jsonata.Props.C01
open Jsonata Jsonata.Spec NumSys

variable {N : Type} [NumSys N]

theorem eq_flatMap {α β : Type} {f : α → List β} {g : List α → List β} (h0 : g [] = [])
    (h1 : ∀ x xs, g (x :: xs) = f x ++ g xs) (xs : List α) : g xs = xs.flatMap f := by
  induction xs with
  | nil => exact h0
  | cons x xs ih => rw [h1, ih, List.flatMap_cons]

theorem flattenStep_eq (isCons : Bool) (rs : List (Val N)) :
    flattenStep isCons rs = flatten1 isCons rs :=
  eq_flatMap rfl (fun v _ => by cases isCons <;> cases v <;> rfl) rs

/-- the step is evaluated once per context item, in order, and absent values are dropped -/
theorem evalOver_pure {ev : Option (Val N) → EvalM N (Option (Val N))}
    {p : Option (Val N) → Option (Val N)} (hev : PureEv ev p)
    (items : List (Option (Val N))) : Returns (evalOver ev items) (stepResults p items) := by
  induction items with
  | nil => exact .pure
  | cons x xs ih =>
    refine Returns.bind (hev x) (ih.bind ?_)
    simp only [stepResults, List.filterMap_cons]
    cases p x <;> exact .pure

/-- an error of the step on the first context item is the outcome -/
theorem evalOver_error (ev : Option (Val N) → EvalM N (Option (Val N))) (x : Option (Val N))
    (xs : List (Option (Val N))) (s : Store N) (e : Err) (h : ev x s = .error e) :
    evalOver ev (x :: xs) s = .error e := by
  rw [evalOver, evalM_bind, h]

/-- `evalPathStep`: results flattened one level (constructor steps exempt); a single
    array-valued result of the last step is returned as it is; nothing is no value. -/
theorem evalPathStep_returns {ev : Option (Val N) → EvalM N (Option (Val N))}
    {p : Option (Val N) → Option (Val N)} (hev : PureEv ev p) {isCons last : Bool}
    {items : List (Option (Val N))} :
    Returns (evalPathStep ev isCons items last)
      (match last, stepResults p items with
       | true, [.arr xs] => some (RV.val (.arr xs))
       | _, rs => match flatten1 isCons rs with
         | [] => none
         | out => some (RV.seq out false)) := by
  refine (evalOver_pure hev items).bind ?_
  rw [flattenStep_eq]
  generalize stepResults p items = rs
  split
  · exact .pure
  · -- `split` leaves the hypothesis that the first pattern does not apply; with it in the
    -- context `simp only []` takes the second alternative of the same match on the value side
    simp only []
    generalize flatten1 isCons rs = out
    cases out <;> exact .pure

/-- the outcome of the steps as the evaluator represents it -/
def toRV : List (Val N) ⊕ Val N → RV N
  | .inl out => .seq out false
  | .inr v => .val v

/-- `n`: the number of steps of the path; `i`: the index of the step the loop is at (`steps` are those from `i` on);
    `i == 0` is the specification's flag `first` -/
theorem evalPathLoop_eq_spec {r : Rec N} {env : Nat}
    {sem : Node N → Option (Val N) → Option (Val N)}
    {n : Nat} (steps : List (Node N)) (hsem : ∀ step ∈ steps, PureEv (fun x => r.ev step x env) (sem step))
    (i : Nat) (hn : i + steps.length = n) (items : List (Option (Val N))) :
    Returns (evalPathLoop r env n i steps items) ((specSteps sem (i == 0) steps items).map toRV) := by
  induction steps generalizing i items with
  | nil => exact .pure
  | cons step rest ih =>
    obtain ⟨hstep, hrest⟩ := List.forall_mem_cons.mp hsem
    have hlast : (i + 1 == n) = rest.isEmpty := by
      cases rest <;> simp at hn ⊢ <;> omega
    have hnext := ih hrest (i + 1) (by simp at hn ⊢; omega)
    rw [evalPathLoop, specSteps, hlast]
    simp only []
    -- both sides branch alike: every leaf is a returned value or the remaining steps
    split
    · -- a leading array constructor: evaluated once, only the empty array is singled out
      refine Returns.bind (Returns.bind (hstep _) (.pure)) ?_
      rcases sem step _ with _ | v
      · exact .pure
      · cases v with
        | arr xs =>
          cases xs with
          | nil => exact .pure
          | cons _ _ =>
            cases rest with
            | nil => exact .pure
            | cons _ _ => exact hnext _
        | _ =>
          cases rest with
          | nil => exact .pure
          | cons _ _ => exact hnext _
    · refine Returns.bind (evalPathStep_returns hstep) ?_
      generalize stepResults (sem step) items = rs
      cases rest with
      | nil =>
        -- the last step: a single array-valued result is the outcome (none if it is empty),
        -- any other list of results is flattened
        rcases rs with _ | ⟨v, _ | ⟨w, ws⟩⟩
        · exact .pure
        · cases v with
          | arr xs => cases xs <;> exact .pure
          | _ => cases isConsNode step <;> exact .pure
        · simp only [List.isEmpty_nil]
          generalize flatten1 (isConsNode step) (v :: w :: ws) = out
          cases out <;> exact .pure
      | cons st2 rest2 =>
        simp only [List.isEmpty_cons]
        generalize flatten1 (isConsNode step) rs = out
        cases out with
        | nil => exact .pure
        | cons o os => exact hnext _

theorem pathInit_eq (steps : List (Node N)) (data : Option (Val N)) :
    pathInit steps data = startItems (firstStepIsVar steps) data := rfl

theorem seqValue_eq_normalise (items : List (Val N)) (keep : Bool) :
    seqValue items keep = normalisePath keep items := by
  rcases items with _ | ⟨x, _ | ⟨y, ys⟩⟩ <;> rfl

/-- only the steps of the path itself have to compute store-independent functions: a hypothesis on every node
    could not be met by the model's own evaluator, which fails on `.placeholder` -/
theorem evalPath_returns {r : Rec N} {env : Nat} {sem : Node N → Option (Val N) → Option (Val N)}
    (steps : List (Node N)) (hsem : ∀ step ∈ steps, PureEv (fun x => r.ev step x env) (sem step))
    (keep : Bool) (data : Option (Val N)) :
    Returns (evalPath r steps keep data env) (specPath sem steps keep data) := by
  refine (evalPathLoop_eq_spec steps hsem 0 (Nat.zero_add _) _).bind ?_
  rw [specPath, pathInit_eq, show ((0 : Nat) == 0) = true from rfl]
  rcases specSteps sem true steps (startItems (firstStepIsVar steps) data) with _ | (out | v)
  · exact .pure
  · show Returns (pure (seqValue out keep)) (normalisePath keep out)
    exact seqValue_eq_normalise out keep ▸ .pure
  · exact .pure

/-- **evalPath = specPath.** For every evaluator whose steps compute store-independent
    functions `sem step`, every list of steps (any length), `[]` marker and context:
    the evaluator returns the value the statement defines. -/
theorem evalPath_eq_spec (r : Rec N) (env : Nat)
    (sem : Node N → Option (Val N) → Option (Val N))
    (hsem : ∀ step, PureEv (fun x => r.ev step x env) (sem step))
    (steps : List (Node N)) (keep : Bool) (data : Option (Val N)) (s : Store N) :
    ∃ s', evalPath r steps keep data env s = .ok (specPath sem steps keep data, s') :=
  evalPath_returns steps (fun step _ => hsem step) keep data s

/-- a result with no items is 'no value'; with one item it is the item itself unless the
    path carries `[]`; otherwise it is the array of the items -/
theorem normalise_cases (keep : Bool) (x y : Val N) (zs : List (Val N)) :
    normalisePath keep ([] : List (Val N)) = none ∧
    normalisePath false [x] = some x ∧ normalisePath true [x] = some (.arr [x]) ∧
    normalisePath keep (x :: y :: zs) = some (.arr (x :: y :: zs)) :=
  ⟨rfl, rfl, rfl, rfl⟩

/-- a path that starts with `$`, `$$` or a variable is anchored, not mapped -/
theorem anchored_start (name : String) (rest : List (Node N)) (xs : List (Val N)) :
    startItems (firstStepIsVar (Node.var name :: rest)) (some (.arr xs)) = [some (.arr xs)] ∧
    startItems (firstStepIsVar (Node.name name :: rest)) (some (.arr xs)) = xs.map some :=
  ⟨rfl, rfl⟩

/-- … also when the variable carries predicates or an order-by clause (`$[p].a`, `$^(k).a`, `$v[p]^(k)[q].a`):
    the first step is evaluated once, on the variable's whole value (F39) -/
theorem anchored_through_sort_and_predicate (name : String) (terms : List (SortDir × Node N))
    (ps qs : List (Node N)) (rest : List (Node N)) (xs : List (Val N)) :
    startItems (firstStepIsVar (Node.sort (.var name) terms :: rest)) (some (.arr xs)) = [some (.arr xs)] ∧
    startItems (firstStepIsVar (Node.predicate (.sort (.predicate (.var name) ps) terms) qs :: rest)) (some (.arr xs))
      = [some (.arr xs)] ∧
    startItems (firstStepIsVar (Node.sort (.name name) terms :: rest)) (some (.arr xs)) = xs.map some :=
  ⟨rfl, rfl, rfl⟩

/-- one-level flattening keeps order and keeps constructor results as units -/
theorem flatten1_append (isCons : Bool) (a b : List (Val N)) :
    flatten1 isCons (a ++ b) = flatten1 isCons a ++ flatten1 isCons b :=
  List.flatMap_append

theorem flatten1_cons_unit (rs : List (Val N)) : flatten1 true rs = rs :=
  (eq_flatMap (g := id) rfl (fun _ _ => rfl) rs).symm

theorem stepResults_append (p : Option (Val N) → Option (Val N)) (a b : List (Option (Val N))) :
    stepResults p (a ++ b) = stepResults p a ++ stepResults p b :=
  List.filterMap_append

theorem fieldItemsL_eq (k : String) (xs : List (Val N)) :
    fieldItemsL k xs = xs.flatMap (fieldItems k) :=
  eq_flatMap rfl (fun _ _ => rfl) xs

/-- a field name selects the member of that name; an array context contributes its members -/
theorem field_spec (k : String) (kvs : List (String × Val N)) (xs : List (Val N)) :
    fieldItems k (.obj kvs) = (objGet kvs k).toList ∧
    fieldItems k (.arr xs) = xs.flatMap (fieldItems k) ∧
    evalName k (some (.obj kvs)) = objGet kvs k ∧
    evalName k (some (.arr xs)) = normalisePath false (xs.flatMap (fieldItems k)) ∧
    evalName (N := N) k (some (.str "s")) = none ∧ evalName (N := N) k none = none :=
  ⟨rfl, fieldItemsL_eq k xs, rfl, (seqValue_eq_normalise _ _).trans (congrArg _ (fieldItemsL_eq k xs)), rfl, rfl⟩

theorem flattenArrL_eq (xs : List (Val N)) : flattenArrL xs = xs.flatMap flattenArr :=
  eq_flatMap rfl (fun _ _ => rfl) xs

/-- `*` selects all member values, array values flattened -/
theorem wildcard_spec (kvs : List (String × Val N)) (xs : List (Val N)) (x : N) :
    evalWildcard (some (.obj kvs)) = normalisePath false (kvs.flatMap fun p => flattenArr p.2) ∧
    evalWildcard (some (.arr xs)) = normalisePath false (xs.flatMap flattenArr) ∧
    flattenArr (.arr xs) = xs.flatMap flattenArr ∧ flattenArr (.num x) = [.num x] ∧
    evalWildcard (some (.num x)) = none :=
  ⟨(seqValue_eq_normalise _ _).trans (congrArg _ (List.flatMap_map ..)), seqValue_eq_normalise _ _,
    flattenArrL_eq xs, rfl, rfl⟩

theorem descendantsL_eq (xs : List (Val N)) : descendantsL xs = xs.flatMap descendants :=
  eq_flatMap rfl (fun _ _ => rfl) xs

theorem descendantsKV_eq (kvs : List (String × Val N)) :
    descendantsKV kvs = kvs.flatMap fun p => descendants p.2 :=
  eq_flatMap rfl (fun _ _ => rfl) kvs

/-- `**` selects the context and all of its descendants in document order, arrays being
    represented by their members -/
theorem descendants_spec (kvs : List (String × Val N)) (xs : List (Val N)) (x : N) (t : String) :
    descendants (.obj kvs) = .obj kvs :: kvs.flatMap (fun p => descendants p.2) ∧
    descendants (.arr xs) = xs.flatMap descendants ∧
    descendants (.num x) = [.num x] ∧ descendants (N := N) (.str t) = [.str t] ∧
    evalDescendent (some (.arr xs)) = normalisePath false (xs.flatMap descendants) :=
  ⟨congrArg _ (descendantsKV_eq kvs), descendantsL_eq xs, rfl, rfl,
    (seqValue_eq_normalise _ _).trans (congrArg _ (descendantsL_eq xs))⟩

example : specPath (N := Int) (fun step ctx => match step with
    | .name k => evalName k ctx
    | _ => none) [.name "a", .name "b"] false
    (some (.obj [("a", .arr [.arr [.arr [.obj [("b", .num 1)]]]])])) = some (.num 1) := by
  rfl

end Jsonata.Props.C01
