/-
  Props/C11.lean — property C11: JSON texts are expressions that denote themselves: string escapes, literal
  nodes, the array and object constructors, and `literal_denotes` for every JSON value with unique keys.
  Partial (DESIGN.md §6 C11): that the parser maps every JSON text to the corresponding tree, and the
  nearest-double reading of number literals, are carried by the correspondence against encoding/json.
-/
import JsonataModel.Model.Parser
import JsonataModel.Model.Interp
import JsonataModel.Lemmas.Monad
import JsonataModel.Generated.Facts

namespace Jsonata.Props.C11
open Jsonata Jsonata.Parse NumSys

theorem unescape_cons (c : Char) (rest : List Char) (fuel : Nat) (hc : c ≠ '\\') :
    unescape (fuel + 1) (c :: rest) = (unescape fuel rest).map (c :: ·) := by
  rw [unescape]; exact hc

theorem unescape_esc {e c : Char} (he : jsonEscape e = some c) (rest : List Char) (fuel : Nat) :
    unescape (fuel + 1) ('\\' :: e :: rest) = (unescape fuel rest).map (c :: ·) := by
  rw [unescape, he]

/-- a string body without a backslash denotes itself -/
theorem unescape_plain (s : List Char) (h : ∀ c ∈ s, c ≠ '\\') (fuel : Nat) (hf : s.length < fuel) :
    unescape fuel s = .ok s := by
  -- the budget plays no part: when it runs out, what is left is returned as it stands
  clear hf
  induction fuel generalizing s with
  | zero => rfl
  | succ f ih =>
    cases s with
    | nil => rfl
    | cons c cs =>
      rw [unescape_cons c cs f (h c List.mem_cons_self), ih cs fun x hx => h x (List.mem_cons_of_mem _ hx)]
      rfl

/-- each two-character JSON escape denotes its character, whatever follows -/
theorem unescape_simple (rest : List Char) (fuel : Nat) (out : List Char)
    (hr : unescape fuel rest = .ok out) :
    unescape (fuel + 1) ('\\' :: 'n' :: rest) = .ok ('\n' :: out) ∧
    unescape (fuel + 1) ('\\' :: 't' :: rest) = .ok ('\t' :: out) ∧
    unescape (fuel + 1) ('\\' :: 'r' :: rest) = .ok ('\r' :: out) ∧
    unescape (fuel + 1) ('\\' :: 'b' :: rest) = .ok ('\x08' :: out) ∧
    unescape (fuel + 1) ('\\' :: 'f' :: rest) = .ok ('\x0c' :: out) ∧
    unescape (fuel + 1) ('\\' :: '"' :: rest) = .ok ('"' :: out) ∧
    unescape (fuel + 1) ('\\' :: '\\' :: rest) = .ok ('\\' :: out) ∧
    unescape (fuel + 1) ('\\' :: '/' :: rest) = .ok ('/' :: out) := by
  have esc {e c : Char} (he : jsonEscape e = some c) :
      unescape (fuel + 1) ('\\' :: e :: rest) = .ok (c :: out) := by rw [unescape_esc he, hr]; rfl
  exact ⟨esc rfl, esc rfl, esc rfl, esc rfl, esc rfl, esc rfl, esc rfl, esc rfl⟩

example : unescape 30 "a\\tb\\\"c".toList = .ok ['a', '\t', 'b', '"', 'c'] := by rfl

/-- \uXXXX denotes the code point, a surrogate pair the astral character; malformed forms are
    errors rather than silently altered values -/
theorem unescape_unicode :
    unescape 10 "\\u00e9".toList = .ok ['é'] ∧
    unescape 20 "\\ud83d\\ude00".toList = .ok ['😀'] ∧
    unescape 20 "a\\u0041b".toList = .ok ['a', 'A', 'b'] ∧
    (unescape 20 "\\ud83d".toList).isOk = false ∧
    (unescape 20 "\\ude00".toList).isOk = false ∧
    (unescape 20 "\\ud83d\\u0041".toList).isOk = false ∧
    (unescape 20 "\\u+041".toList).isOk = false ∧
    (unescape 20 "\\u12".toList).isOk = false ∧
    (unescape 20 "\\x41".toList).isOk = false := by
  refine ⟨by rfl, by rfl, by rfl, ?_⟩
  decide +kernel

/-- the model's single-character escapes are JSON's (RFC 8259 §7): the tie to the implementation's table is
    behavioural — the harness sweeps every `\\c` for c over ASCII through the real lexer, the model and
    encoding/json — because a table read from the source breaks whenever the table is rewritten
    (map literal ↔ switch), which says nothing about the property -/
theorem json_escape_table :
    ([34, 92, 47, 98, 102, 110, 114, 116].map fun c => (jsonEscape (Char.ofNat c)).map Char.toNat) =
      [some 34, some 92, some 47, some 8, some 12, some 10, some 13, some 9] ∧
    ((List.range 128).filter fun c => (jsonEscape (Char.ofNat c)).isSome) = [34, 47, 92, 98, 102, 110, 114, 116] := by
  decide +kernel

/-- parseRune reads its four characters as base-16, 32 bits -/
theorem fact_parse_rune : Generated.parseRuneCall = "strconv.ParseInt(hex, 16, 32)" := by decide +kernel

variable {N : Type} [NumSys N]

theorem scalar_literals_denote (r : Rec N) (d : Option (Val N)) (env : Nat) (st : Store N)
    (s : String) (x : N) (b : Bool) :
    evalNode r (.str s) d env st = .ok (some (.str s), st) ∧
    evalNode r (.num x) d env st = .ok (some (.num x), st) ∧
    evalNode r (.bool b) d env st = .ok (some (.bool b), st) ∧
    evalNode r .null d env st = .ok (some .null, st) := by
  refine ⟨rfl, rfl, rfl, rfl⟩

theorem evalNode_array (r : Rec N) (items : List (Node N)) (d : Option (Val N)) (env : Nat) :
    evalNode r (.array items) d env = (evalArrayItems r d env items >>= fun xs => pure (some (.arr xs))) := rfl

theorem evalNode_object (r : Rec N) (pairs : List (Node N × Node N)) (d : Option (Val N)) (env : Nat) :
    evalNode r (.object pairs) d env = evalObject r pairs d env := rfl

theorem arrayify_of_not_isArr {v : Val N} (h : v.isArr = false) : arrayify (some v) = [v] := by
  cases v <;> simp [arrayify, Val.isArr] at h ⊢

/-- a nested array constructor is kept as a unit: no flattening -/
theorem array_keeps_nested_constructor (r : Rec N) (d : Option (Val N)) (env : Nat) (st st1 st2 : Store N)
    (inner : List (Node N)) (rest : List (Node N)) (v : Val N) (tail : List (Val N))
    (hi : r.ev (.array inner) d env st = .ok (some v, st1))
    (hr : evalArrayItems r d env rest st1 = .ok (tail, st2)) :
    evalArrayItems r d env (.array inner :: rest) st = .ok (v :: tail, st2) := by
  simp only [evalArrayItems, evalM_bind, hi, hr]
  rfl

/-- a value that is not an array is one member (objects, strings, numbers, … are not spread) -/
theorem array_keeps_non_array_value (r : Rec N) (d : Option (Val N)) (env : Nat) (st st1 st2 : Store N)
    (item : Node N) (rest : List (Node N)) (v : Val N) (tail : List (Val N))
    (hv : v.isArr = false) (hi : r.ev item d env st = .ok (some v, st1))
    (hr : evalArrayItems r d env rest st1 = .ok (tail, st2)) :
    evalArrayItems r d env (item :: rest) st = .ok (v :: tail, st2) := by
  simp only [evalArrayItems, evalM_bind, hi, hr, arrayify_of_not_isArr hv]
  split <;> rfl

/-- a one-member array stays an array: no singleton collapse -/
theorem array_no_singleton_collapse (r : Rec N) (d : Option (Val N)) (env : Nat) (st st1 : Store N)
    (x : N) (hi : r.ev (.num x) d env st = .ok (some (.num x), st1)) :
    evalNode r (.array [.num x]) d env st = .ok (some (.arr [.num x]), st1) := by
  rw [evalNode_array, evalM_bind, array_keeps_non_array_value r d env st st1 st1 _ [] _ [] rfl hi rfl]
  rfl

/-- the object constructor on a defined context: the context is taken as an array -/
theorem evalObject_some (r : Rec N) (pairs : List (Node N × Node N)) (d : Val N) (env : Nat) :
    evalObject r pairs (some d) env = (do
      let groups ← groupPairsLoop r env ((arrayify (some d)).map some) 0 pairs []
      let members ← evalObject.build r pairs env ((arrayify (some d)).map some)
        (some (.arr (arrayify (some d)))) ((arrayify (some d)).map some).length groups []
      return some (.obj members)) := by
  cases d <;> rfl

/-- an object constructor with one literal key yields exactly that member -/
theorem object_single_member (r : Rec N) (d : Val N) (env : Nat) (st st1 : Store N)
    (k : String) (vn : Node N) (v : Val N) (hd : d.isArr = false)
    (hv : r.ev vn (some (.arr [d])) env st = .ok (some v, st1)) :
    evalObject r [(.str k, vn)] (some d) env st = .ok (some (.obj [(k, v)]), st1) := by
  simp [evalObject_some, arrayify_of_not_isArr hd, groupPairsLoop, evalObject.build, hv]

/-- JSON values (the statement's "JSON text" after reading it) -/
inductive Json (N : Type) : Type
  | null
  | bool (b : Bool)
  | num (x : N)
  | str (s : String)
  | arr (xs : List (Json N))
  | obj (kvs : List (String × Json N))

mutual
def toNode : Json N → Node N
  | .null => .null
  | .bool b => .bool b
  | .num x => .num x
  | .str s => .str s
  | .arr xs => .array (toNodeL xs)
  | .obj kvs => .object (toNodeKV kvs)
def toNodeL : List (Json N) → List (Node N)
  | [] => []
  | j :: js => toNode j :: toNodeL js
def toNodeKV : List (String × Json N) → List (Node N × Node N)
  | [] => []
  | (k, j) :: rest => (.str k, toNode j) :: toNodeKV rest
end

mutual
def toVal : Json N → Val N
  | .null => .null
  | .bool b => .bool b
  | .num x => .num x
  | .str s => .str s
  | .arr xs => .arr (toValL xs)
  | .obj kvs => .obj (toValKV kvs)
def toValL : List (Json N) → List (Val N)
  | [] => []
  | j :: js => toVal j :: toValL js
def toValKV : List (String × Json N) → List (String × Val N)
  | [] => []
  | (k, j) :: rest => (k, toVal j) :: toValKV rest
end

mutual
def uniqueKeys : Json N → Bool
  | .arr xs => uniqueKeysL xs
  | .obj kvs => (kvs.map (·.1)).Nodup && uniqueKeysKV kvs
  | _ => true
def uniqueKeysL : List (Json N) → Bool
  | [] => true
  | j :: js => uniqueKeys j && uniqueKeysL js
def uniqueKeysKV : List (String × Json N) → Bool
  | [] => true
  | (_, j) :: rest => uniqueKeys j && uniqueKeysKV rest
end

theorem toVal_isArr (j : Json N) : (toVal j).isArr = true ↔ ∃ xs, j = .arr xs := by
  cases j <;> simp [toVal, Val.isArr]

/-- a literal member is a nested constructor or has a value that is no array: one item either way -/
theorem arrayItems_lit (r : Rec N) (d : Option (Val N)) (env : Nat) (xs : List (Json N))
    (h : ∀ j ∈ xs, ∀ st, r.ev (toNode j) d env st = .ok (some (toVal j), st)) (st : Store N) :
    evalArrayItems r d env (toNodeL xs) st = .ok (toValL xs, st) := by
  induction xs with
  | nil => rfl
  | cons j js ih =>
    obtain ⟨hj, hjs⟩ := List.forall_mem_cons.mp h
    cases j with
    | arr xs => exact array_keeps_nested_constructor r d env st st st _ _ _ _ (hj st) (ih hjs)
    | _ => exact array_keeps_non_array_value r d env st st st _ _ _ _ rfl (hj st) (ih hjs)

/-- the groups an object constructor with literal keys forms: one per pair, in order -/
def litGroups : Nat → List (String × Json N) → List KeyIdx
  | _, [] => []
  | i, (k, _) :: rest => { key := k, pair := i, items := [] } :: litGroups (i + 1) rest

theorem groupPairs_lit (r : Rec N) (env : Nat) (items : List (Option (Val N))) (kvs : List (String × Json N))
    (i : Nat) (groups : List KeyIdx) (st : Store N) (hnd : (groups.map (·.key) ++ kvs.map (·.1)).Nodup) :
    groupPairsLoop r env items i (toNodeKV kvs) groups st = .ok (groups ++ litGroups i kvs, st) := by
  induction kvs generalizing i groups with
  | nil => simp [toNodeKV, groupPairsLoop, litGroups]
  | cons p rest ih =>
    obtain ⟨k, j⟩ := p
    have hk : groups.any (fun g => g.key == k) = false :=
      List.any_eq_false.mpr fun g hg hgk => (List.nodup_append.mp hnd).2.2 _ (List.mem_map_of_mem hg) _
        List.mem_cons_self (by simpa using hgk)
    simp [toNodeKV, groupPairsLoop, hk, litGroups, ih (i + 1) (groups ++ [⟨k, i, []⟩]) (by simpa using hnd)]

/-- `pre` stands for the pairs already dealt with: a group finds its pair by position in the whole list -/
theorem build_lit (r : Rec N) (env : Nat) (items : List (Option (Val N))) (dataArr : Option (Val N))
    (nItems : Nat) (kvs : List (String × Json N)) (pre : List (Node N × Node N)) (acc : List (String × Val N))
    (st : Store N) (h : ∀ p ∈ kvs, ∀ st, r.ev (toNode p.2) dataArr env st = .ok (some (toVal p.2), st)) :
    evalObject.build r (pre ++ toNodeKV kvs) env items dataArr nItems (litGroups pre.length kvs) acc st
      = .ok (acc ++ toValKV kvs, st) := by
  induction kvs generalizing pre acc with
  | nil => simp [litGroups, evalObject.build, toValKV]
  | cons p rest ih =>
    obtain ⟨k, j⟩ := p
    obtain ⟨hj, hrest⟩ := List.forall_mem_cons.mp h
    have := ih (pre ++ [(.str k, toNode j)]) (acc ++ [(k, toVal j)]) hrest
    simp only [List.length_append, List.length_singleton, List.append_assoc, List.singleton_append] at this
    simp [litGroups, evalObject.build, toNodeKV, toValKV, hj st, this]

theorem object_lit (r : Rec N) (d : Val N) (env : Nat) (kvs : List (String × Json N))
    (hnd : (kvs.map (·.1)).Nodup)
    (h : ∀ p ∈ kvs, ∀ (c : Val N) st, r.ev (toNode p.2) (some c) env st = .ok (some (toVal p.2), st))
    (st : Store N) :
    evalObject r (toNodeKV kvs) (some d) env st = .ok (some (.obj (toValKV kvs)), st) := by
  have hb := build_lit r env ((arrayify (some d)).map some) (some (.arr (arrayify (some d))))
    ((arrayify (some d)).map some).length kvs [] [] st (fun p hm st => h p hm _ st)
  simp only [List.nil_append, List.length_nil] at hb
  simp only [evalObject_some, evalM_bind, groupPairs_lit r env _ kvs 0 [] st hnd, List.nil_append, hb]
  rfl

theorem uniqueKeysL_eq_all (xs : List (Json N)) : uniqueKeysL xs = xs.all uniqueKeys := by
  induction xs <;> simp [uniqueKeysL, *]

theorem uniqueKeysKV_eq_all (kvs : List (String × Json N)) :
    uniqueKeysKV kvs = kvs.all fun p => uniqueKeys p.2 := by
  induction kvs with
  | nil => rfl
  | cons p ps ih => obtain ⟨k, j⟩ := p; simp [uniqueKeysKV, ih]

/-- what the statement says of a JSON text: the expression denotes the value, on every defined input -/
def Denotes (j : Json N) (f : Nat) : Prop :=
  ∀ (d : Val N) (env : Nat) (st : Store N), eval f (toNode j) (some d) env st = .ok (some (toVal j), st)

/-- a nesting budget above the size of the value is enough (induction on the budget: the members of
    an array or object are smaller, so the budget left after one step still serves them) -/
theorem denotes_of_size (f : Nat) : ∀ j : Json N, uniqueKeys j = true → sizeOf j < f → Denotes j f := by
  induction f with
  | zero => exact fun _ _ hs => nomatch hs
  | succ f ih =>
    intro j hu hs d env st
    cases j with
    | arr xs =>
      rw [uniqueKeys, uniqueKeysL_eq_all, List.all_eq_true] at hu
      rw [eval, toNode, evalNode_array, evalM_bind, arrayItems_lit _ (some d) env xs fun j hm st =>
        ih j (hu j hm) (by have := List.sizeOf_lt_of_mem hm; simp at hs; omega) d env st]
      rfl
    | obj kvs =>
      rw [uniqueKeys, Bool.and_eq_true, decide_eq_true_eq, uniqueKeysKV_eq_all, List.all_eq_true] at hu
      rw [eval, toNode, evalNode_object]
      refine object_lit _ d env kvs hu.1 (fun p hm c st => ih p.2 (hu.2 p hm) ?_ c env st) st
      have := List.sizeOf_lt_of_mem hm
      have : sizeOf p.2 < sizeOf p := by cases p; simp; omega
      simp at hs; omega
    | _ => rfl

/-- **every JSON value with unique keys, of any depth and width, is an expression that evaluates to itself
    on every defined input, in every environment, and leaves the store as it was**; the evaluator needs a nesting
    budget no larger than some bound (the proof takes its size), and any larger budget gives the same answer. -/
theorem literal_denotes (j : Json N) : uniqueKeys j = true → ∃ f0, ∀ f, f0 ≤ f → Denotes j f :=
  fun hu => ⟨sizeOf j + 1, fun f hf => denotes_of_size f j hu hf⟩

/-- the same through `Expr.Eval`'s entry point -/
theorem literal_denotes_top (j : Json N) (hu : uniqueKeys j = true) :
    ∃ f0, ∀ f, f0 ≤ f → ∀ d : Val N, evalTop f (toNode j) (some d) = .ok (some (toVal j)) := by
  obtain ⟨f0, h⟩ := literal_denotes j hu
  refine ⟨f0, fun f hf d => ?_⟩
  simp [evalTop, StateT.run, h f hf d]

/-- a repeated key is outside the statement, and is an error rather than a silently chosen member -/
theorem duplicate_key_rejected (r : Rec N) (d : Val N) (env : Nat) (k : String) (a b : Node N) (st : Store N) :
    evalObject r [(.str k, a), (.str k, b)] (some d) env st = .error (.eval .duplicateKey) := by
  simp [evalObject_some, groupPairsLoop]

/-! non-vacuity: a nested text with an empty array, an empty object, a one-member array and a nested array -/
example : uniqueKeys (.obj [("a", .arr [.arr [], .arr [.num (1 : Int)], .obj []]), ("b", .null)] : Json Int) = true := by
  decide +kernel

end Jsonata.Props.C11
