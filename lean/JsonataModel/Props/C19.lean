/-
  Props/C19.lean — property C19: $fromMillis renders the right calendar fields, $toMillis inverts it.

  The calendar is integer arithmetic (Model/Date.lean).  Proved for every instant and offset:
  the civil date of a day number converts back to that day number (no bound on the year), months
  and days are in range, the clock fields are in range and rebuild the instant, hence the
  instant computed from the rendered fields (what $toMillis does with the text) is the instant
  that was rendered; the 12-hour clock shows 12, 1..11; weekdays cycle; ordinal suffixes.
  The text layer is proved for the default picture: it renders the ISO 8601 text of the fields
  (`DateText.format_default`), time.Parse's layout items read the fields back (`DateText.parse_iso`),
  hence `toMillis_fromMillis`.
  PARTIAL (DESIGN.md §6 C19): the other pictures of the inverse law, names, ordinals and widths, and
  the `time` package itself are tied by the correspondence (every day 1000..9999) rather than by a theorem.
-/
import JsonataModel.Model.Date
import JsonataModel.Generated.Facts
import JsonataModel.Lemmas.DateText

namespace Jsonata.Props.C19
open Jsonata Jsonata.Date

theorem isLeap_iff (y : Int) : isLeap y = true ↔ (y % 4 = 0 ∧ (y % 100 ≠ 0 ∨ y % 400 = 0)) := by
  simp [isLeap]

/- `civilFromDays` writes the day of the era in mixed radix: `c` centuries of 36524 days, `q` cycles of 1461
   days, `yy` years of 365 days and `doy` days.  Centuries and years are clamped at 3 (the fourth is a day
   longer), so a remainder reaches the full length only in the fourth.  One lemma per digit: `omega` is
   fast only when it sees no more hypotheses than it needs. -/

theorem century_split (doe c r1 : Int) (h0 : 0 ≤ doe) (h1 : doe < 146097)
    (hc : c = if doe / 36524 > 3 then 3 else doe / 36524) (hr1 : r1 = doe - c * 36524) :
    0 ≤ c ∧ c ≤ 3 ∧ 0 ≤ r1 ∧ r1 ≤ 36524 ∧ (r1 = 36524 → c = 3) := by omega

theorem cycle_split (r1 q r2 : Int) (h0 : 0 ≤ r1) (h1 : r1 ≤ 36524) (hq : q = r1 / 1461) (hr2 : r2 = r1 - q * 1461) :
    0 ≤ q ∧ q ≤ 24 ∧ 0 ≤ r2 ∧ r2 ≤ 1460 ∧ (q = 24 → r2 = 1460 → r1 = 36524) := by omega

theorem yearOfCycle_split (r2 yy doy : Int) (h0 : 0 ≤ r2) (h1 : r2 ≤ 1460)
    (hyy : yy = if r2 / 365 > 3 then 3 else r2 / 365) (hdoy : doy = r2 - yy * 365) :
    0 ≤ yy ∧ yy ≤ 3 ∧ 0 ≤ doy ∧ doy ≤ 365 ∧ (doy = 365 → yy = 3 ∧ r2 = 1460) := by omega

/-- the year of the era with digits `c q yy`: its days before the year start, and the next year is a leap year
    when `yy = 3` unless the century ends (`q = 24`) before the era does (`c = 3`) -/
theorem yoe_of_digits (c q yy yoe : Int) (hc0 : 0 ≤ c) (hc : c ≤ 3) (hq0 : 0 ≤ q) (hq : q ≤ 24) (hy0 : 0 ≤ yy)
    (hy : yy ≤ 3) (hyoe : yoe = c * 100 + q * 4 + yy) :
    0 ≤ yoe ∧ yoe ≤ 399 ∧ yoe * 365 + yoe / 4 - yoe / 100 = c * 36524 + q * 1461 + yy * 365 ∧
    (yy = 3 → (q = 24 → c = 3) → ∀ era, isLeap (yoe + era * 400 + 1) = true) := by
  refine ⟨by omega, by omega, by omega, fun h3 h24 era => ?_⟩
  rw [isLeap_iff]; omega

theorem month_split (doy mp d m : Int) (h0 : 0 ≤ doy) (h1 : doy ≤ 365)
    (hmp : mp = (5 * doy + 2) / 153) (hd : d = doy - (153 * mp + 2) / 5 + 1)
    (hm : m = if mp < 10 then mp + 3 else mp - 9) :
    1 ≤ m ∧ m ≤ 12 ∧ 1 ≤ d ∧ d ≤ 31 ∧ (m + 9) % 12 = mp ∧ (153 * mp + 2) / 5 + d - 1 = doy ∧
    (m = 2 → d ≤ 29 ∧ (doy ≠ 365 → d ≤ 28)) ∧ (m = 4 ∨ m = 6 ∨ m = 9 ∨ m = 11 → d ≤ 30) := by
  omega

theorem le_daysInMonth (y m d : Int) (h31 : d ≤ 31) (h30 : m = 4 ∨ m = 6 ∨ m = 9 ∨ m = 11 → d ≤ 30)
    (h2 : m = 2 → d ≤ 29 ∧ (isLeap y = false → d ≤ 28)) : d ≤ daysInMonth y m := by
  unfold daysInMonth
  split
  · rename_i hm
    obtain ⟨a, b⟩ := h2 (by simpa using hm)
    cases hl : isLeap y
    · exact b hl
    · exact a
  · split
    · rename_i hm; exact h30 (by simp at hm; omega)
    · exact h31

theorem daysFromCivil_split (y era yoe mp doy m d : Int) (h0 : 0 ≤ yoe) (h1 : yoe ≤ 399)
    (hy : (if m ≤ 2 then y - 1 else y) = yoe + era * 400) (hmp : (m + 9) % 12 = mp)
    (hd : (153 * mp + 2) / 5 + d - 1 = doy) :
    daysFromCivil y m d = era * 146097 + (yoe * 365 + yoe / 4 - yoe / 100 + doy) - 719468 := by
  have he : (yoe + era * 400) / 400 = era := by omega
  simp only [daysFromCivil]
  rw [hy, hmp, hd, he, Int.add_sub_cancel]

/-- `civilFromDays` digit by digit (`w` is the day number counted from 0000-03-01): the date converts back to
    the day number, and it is a date of the calendar -/
theorem civilFromDays_spec (z : Int) :
    daysFromCivil (civilFromDays z).1 (civilFromDays z).2.1 (civilFromDays z).2.2 = z ∧
    1 ≤ (civilFromDays z).2.1 ∧ (civilFromDays z).2.1 ≤ 12 ∧ 1 ≤ (civilFromDays z).2.2 ∧ (civilFromDays z).2.2 ≤ 31 ∧
    (civilFromDays z).2.2 ≤ daysInMonth (civilFromDays z).1 (civilFromDays z).2.1 := by
  unfold civilFromDays
  extract_lets w era doe c r1 q r2 yy doy y mp d m
  obtain ⟨hdoe0, hdoe1⟩ : 0 ≤ doe ∧ doe < 146097 := by omega
  obtain ⟨c0, c3, r10, r11, hc3⟩ := century_split doe c r1 hdoe0 hdoe1 rfl rfl
  obtain ⟨q0, q24, r20, r21, hq24⟩ := cycle_split r1 q r2 r10 r11 rfl rfl
  obtain ⟨y0, y3, hd0, hd1, hy3⟩ := yearOfCycle_split r2 yy doy r20 r21 rfl rfl
  obtain ⟨hy0, hy1, hsum, hleap⟩ := yoe_of_digits c q yy _ c0 c3 q0 q24 y0 y3 rfl
  obtain ⟨hm1, hm12, hdd1, hdd31, hmpm, hdoyeq, hfeb, h30⟩ := month_split doy mp d m hd0 hd1 rfl rfl rfl
  refine ⟨?_, hm1, hm12, hdd1, hdd31, le_daysInMonth _ m d hdd31 h30 fun hm2 => ⟨(hfeb hm2).1, fun hl => ?_⟩⟩
  · -- the digits add up to the day of the era
    exact (daysFromCivil_split _ era _ mp doy m d hy0 hy1 (by by_cases h : m ≤ 2 <;> simp [h, y]) hmpm hdoyeq).trans
      (by omega)
  · refine (hfeb hm2).2 fun hdoy365 => ?_
    -- day 365 is 29 February: the last year of a cycle, and of a century only if the century ends the era
    rw [if_pos (by omega), hleap (hy3 hdoy365).1 (fun hq => hc3 (hq24 hq (hy3 hdoy365).2)) era] at hl
    cases hl

/-- **Calendar inverse.**  For every day number, converting to a civil date and back is the
    identity — no bound on the year, before and after the epoch. -/
theorem days_civil_days (z : Int) :
    daysFromCivil (civilFromDays z).1 (civilFromDays z).2.1 (civilFromDays z).2.2 = z :=
  (civilFromDays_spec z).1

theorem civil_ranges (z : Int) :
    1 ≤ (civilFromDays z).2.1 ∧ (civilFromDays z).2.1 ≤ 12 ∧ 1 ≤ (civilFromDays z).2.2 ∧ (civilFromDays z).2.2 ≤ 31 :=
  have ⟨_, a, b, c, d, _⟩ := civilFromDays_spec z
  ⟨a, b, c, d⟩

/-- **Every day number is a valid calendar date**: the day never exceeds the length of its month
    (29 February only in leap years). -/
theorem civil_day_valid (z : Int) :
    (civilFromDays z).2.2 ≤ daysInMonth (civilFromDays z).1 (civilFromDays z).2.1 :=
  (civilFromDays_spec z).2.2.2.2.2

/-- weekdays: 0..6, the next day is the next weekday, the epoch was a Thursday -/
theorem weekday_cycle (z : Int) :
    0 ≤ weekday z ∧ weekday z ≤ 6 ∧ weekday (z + 1) = (weekday z + 1) % 7 ∧ weekday (z + 7) = weekday z ∧ weekday 0 = 4 := by
  simp only [weekday]; omega

/-- the clock fields of an instant are in range and, with the day number, rebuild the instant -/
theorem clock_fields (ms off : Int) (zone : FmtNum.S) :
    let t := fields ms off zone
    0 ≤ t.hour ∧ t.hour ≤ 23 ∧ 0 ≤ t.minute ∧ t.minute ≤ 59 ∧ 0 ≤ t.second ∧ t.second ≤ 59 ∧
    0 ≤ t.milli ∧ t.milli ≤ 999 ∧
    ((ms + off * 1000) / 86400000) * 86400000 + t.hour * 3600000 + t.minute * 60000 + t.second * 1000 + t.milli
      = ms + off * 1000 := by
  simp only [fields, msPerDay]
  omega

theorem date_fields (ms off : Int) (zone : FmtNum.S) :
    let t := fields ms off zone
    daysFromCivil t.year t.month t.day = (ms + off * 1000) / 86400000 ∧ 1 ≤ t.month ∧ t.month ≤ 12 ∧ 1 ≤ t.day ∧ t.day ≤ 31 ∧
    t.day ≤ daysInMonth t.year t.month := by
  simp only [fields, msPerDay]
  exact civilFromDays_spec _

/-- **Inverse at the level of fields.**  The instant $toMillis computes from the fields that
    $fromMillis rendered (year, month, day, hour, minute, second, millisecond, offset) is the
    instant that was rendered — for every instant and every offset. -/
theorem fields_to_millis (ms off : Int) (zone : FmtNum.S) :
    let t := fields ms off zone
    (daysFromCivil t.year t.month t.day * 86400 + t.hour * 3600 + t.minute * 60 + t.second - off) * 1000 + t.milli = ms := by
  obtain ⟨-, -, -, -, -, -, -, -, hk⟩ := clock_fields ms off zone
  simp only [(date_fields ms off zone).1] at hk ⊢
  omega

/-- the 12-hour clock shows 12, 1, …, 11 and agrees with the hour modulo 12 (`h12` is inline in `expandComponent`,
    Model/Date.lean, component `h`) -/
theorem hour12_rule (h : Int) (h0 : 0 ≤ h) (h1 : h ≤ 23) :
    let h12 := if h % 12 == 0 then 12 else h % 12
    1 ≤ h12 ∧ h12 ≤ 12 ∧ h12 % 12 = h % 12 := by
  split <;> rename_i hh <;> simp at hh <;> omega

/-- ordinal suffixes: 1st 2nd 3rd 4th … 11th 12th 13th … 21st 22nd 23rd … -/
theorem ordinal_suffixes :
    (List.range 32).map (fun (n : Nat) => String.ofList (ordinalSuffix (Int.ofNat n))) =
      ["th", "st", "nd", "rd", "th", "th", "th", "th", "th", "th", "th", "th", "th", "th", "th", "th", "th", "th", "th", "th",
       "th", "st", "nd", "rd", "th", "th", "th", "th", "th", "th", "th", "st"] := by decide +kernel

theorem parseTimeZone_length (tz : FmtNum.S) (h : tz.length ≠ 5) : parseTimeZone tz = none := by
  simp [parseTimeZone, h]

theorem parseTimeZone_examples :
    parseTimeZone "+0530".toList = some 19800 ∧ parseTimeZone "-0030".toList = some (-1800) ∧
    parseTimeZone "+0000".toList = some 0 ∧ parseTimeZone "-1400".toList = some (-50400) ∧
    parseTimeZone "0530".toList = none ∧ parseTimeZone "*0530".toList = none ∧ parseTimeZone "+05:30".toList = none ∧
    parseTimeZone "+0a30".toList = none := by decide +kernel

theorem parseTimeZone_minutes (tz : FmtNum.S) (off : Int) (h : parseTimeZone tz = some off) : off % 60 = 0 := by
  unfold parseTimeZone at h
  -- the `split`s: the length and ASCII guard; a first character; sign, hours, minutes read; minutes ≤ 59
  split at h
  · cases h
  · split at h
    · simp only [] at h
      split at h
      · split at h
        · cases h
        · injection h with e
          rw [← e, Int.mul_left_comm]; exact Int.mul_emod_right 60 _
      · cases h
    · cases h

section TextLayer
open Jsonata.DateText

theorem fields_nat (ms off : Int) (zone : FmtNum.S) (hy : 0 ≤ (fields ms off zone).year) :
    ∃ y mo d h mi s ml : Nat, Fields (fields ms off zone) y mo d h mi s ml ∧
      1 ≤ mo ∧ mo ≤ 12 ∧ 1 ≤ d ∧ d ≤ 31 ∧ h < 24 ∧ mi < 60 ∧ s < 60 ∧ ml < 1000 := by
  obtain ⟨c1, c2, c3, c4, c5, c6, c7, c8, _⟩ := clock_fields ms off zone
  obtain ⟨_, r1, r2, r3, r4, _⟩ := date_fields ms off zone
  refine ⟨_, _, _, _, _, _, _, ⟨(Int.toNat_of_nonneg hy).symm, (Int.toNat_of_nonneg (by omega)).symm,
    (Int.toNat_of_nonneg (by omega)).symm, (Int.toNat_of_nonneg c1).symm, (Int.toNat_of_nonneg c3).symm,
    (Int.toNat_of_nonneg c5).symm, (Int.toNat_of_nonneg c7).symm⟩, ?_⟩
  omega

/-- **The text layer inverts.**  Rendering any instant whose (local) year has four digits through
    the default picture, in any whole-minute offset within ±25 h, and parsing the text back
    yields the instant. -/
theorem toMillis_formatTime_default (ms off : Int) (zone : FmtNum.S)
    (hy1 : 1000 ≤ (fields ms off zone).year) (hy2 : (fields ms off zone).year ≤ 9999)
    (h60 : off % 60 = 0) (hlo : -90000 < off) (hhi : off < 90000) :
    ∃ s, formatTime (fields ms off zone) defaultPicture = some s ∧ toMillis s [] = .ok ms := by
  obtain ⟨y, mo, d, h, mi, s, ml, F, hmo1, hmo2, hd1, hd2, hh, hmi, hs, hml⟩ := fields_nat ms off zone (by omega)
  obtain ⟨-, -, -, -, -, hv⟩ := date_fields ms off zone
  have hm := fields_to_millis ms off zone
  simp only [F.year, F.month, F.day, F.hour, F.minute, F.second, F.milli] at hv hm hy1 hy2
  refine ⟨isoText y mo d h mi s ml off, format_default _ y mo d h mi s ml F hml, ?_⟩
  rw [toMillis_of_items1 (parse_iso y mo d h mi s ml off (by omega) (by omega) hmo1 hmo2 (by omega) hh hmi hs hml
    h60 hlo hhi) (parsedToMillis_valid _ (Int.ofNat_le.mpr hd1) hv), hm]

/-- **$toMillis inverts $fromMillis** (default picture): for every instant `ms`, in UTC or in any
    offset the implementation accepts that lies within ±25 h, whose local year has four digits
    (1000 … 9999), `$toMillis($fromMillis(ms, (), tz)) = ms`.  No sampling: every millisecond of
    the nine thousand years, every such offset. -/
theorem toMillis_fromMillis (ms off : Int) (tz : FmtNum.S)
    (htz : (tz = [] ∧ off = 0) ∨ (tz ≠ [] ∧ parseTimeZone tz = some off))
    (hlo : -90000 < off) (hhi : off < 90000)
    (hy1 : 1000 ≤ (civilFromDays ((ms + off * 1000) / 86400000)).1)
    (hy2 : (civilFromDays ((ms + off * 1000) / 86400000)).1 ≤ 9999) :
    ∃ s, fromMillis ms [] tz = some s ∧ toMillis s [] = .ok ms := by
  -- the year does not depend on the zone name; by rewriting, since unfolding `civilFromDays` to compare is dear
  have hy : ∀ zone, 1000 ≤ (fields ms off zone).year ∧ (fields ms off zone).year ≤ 9999 := fun _ => by
    simp only [fields, msPerDay]; exact ⟨hy1, hy2⟩
  rcases htz with ⟨rfl, rfl⟩ | ⟨e1, e2⟩
  · simp only [fromMillis, List.isEmpty_nil, if_true]
    exact toMillis_formatTime_default ms 0 _ (hy _).1 (hy _).2 (by decide) hlo hhi
  · have hne : tz.isEmpty = false := by simpa using e1
    simp only [fromMillis, hne, e2, List.isEmpty_nil, if_true, Bool.false_eq_true, if_false]
    exact toMillis_formatTime_default ms off tz (hy _).1 (hy _).2 (parseTimeZone_minutes tz off e2) hlo hhi

/-- non-vacuity: a concrete instant and offset meet the premises, and the rendered text is ISO 8601 -/
example : fromMillis 1521801216617 [] "+0530".toList = some "2018-03-23T16:03:36.617+05:30".toList ∧
    parseTimeZone "+0530".toList = some 19800 ∧
    (civilFromDays ((1521801216617 + 19800 * 1000) / 86400000)).1 = 2018 := by decide +kernel
example : (match toMillis "2018-03-23T16:03:36.617+05:30".toList [] with | .ok ms => ms | _ => 0) = 1521801216617 := by decide +kernel

end TextLayer

def eventsOf (fn : String) : List String := (Generated.dateFuncEvents.lookup fn).getD []

/-- the name tables and default pictures of the model are the statement's: English day and month names (the
    first entry of each row; the others are the abbreviations tried for narrow widths), am/pm, the `GMT` prefix of
    `[z]`, ISO 8601 with milliseconds and offset as the default picture, and the ISO forms `$toMillis` accepts
    without a picture.  They are tied to the implementation behaviourally — the sweep renders every field, name,
    abbreviation and default presentation of 13 000 days through the real code, the model and a day-counting oracle
    — not by reading the source's tables, which breaks whenever a table is renamed or moved (DESIGN.md 0.8) -/
theorem date_tables :
    dayNames.map (·.headD "") = ["Sunday", "Monday", "Tuesday", "Wednesday", "Thursday", "Friday", "Saturday"] ∧
    (monthNames.drop 1).map (·.headD "") = ["January", "February", "March", "April", "May", "June", "July", "August",
      "September", "October", "November", "December"] ∧
    amNames.headD "" = "am" ∧ pmNames.headD "" = "pm" ∧ tzPrefix = "GMT".toList ∧
    String.ofList defaultPicture = "[Y]-[M01]-[D01]T[H01]:[m]:[s].[f001][Z01:01t]" ∧
    defaultParsePictures.map String.ofList = ["[Y]-[M01]-[D01]T[H01]:[m]:[s][Z01:01t]", "[Y]-[M01]-[D01]T[H01]:[m]:[s][Z0100t]",
      "[Y]-[M01]-[D01]T[H01]:[m]:[s]", "[Y]-[M01]-[D01]", "[Y]"] := by
  -- the names by evaluation; the pictures are defined as the `toList` of these literals, and evaluating `toList` is dear
  refine ⟨by decide +kernel, by decide +kernel, rfl, rfl, rfl, String.ofList_toList, ?_⟩
  simp only [defaultParsePictures, List.map_cons, List.map_nil, String.ofList_toList]

/-- the conversions: milliseconds are split with integer division, $toMillis does not go through
    64-bit nanoseconds, the week is the ISO week, integers are rendered by FormatNumber -/
theorem fact_date_functions :
    (eventsOf "FromMillis").contains "call:Unix" = true ∧ (eventsOf "FromMillis").contains "call:float64" = false ∧
    (eventsOf "ToMillis").contains "call:UnixNano" = false ∧ (eventsOf "ToMillis").contains "call:Unix" = true ∧
    (eventsOf "jxpath.FormatTime").contains "call:ISOWeek" = true ∧
    (eventsOf "jxpath.FormatTime").contains "call:FormatNumber" = true ∧
    (eventsOf "FromMillis").contains "call:FixedZone" = true ∧ (eventsOf "FromMillis").contains "call:In" = true ∧
    (eventsOf "FromMillis").contains "call:FormatTime" = true ∧
    (eventsOf "ToMillis").contains "call:Parse" = true := by
  decide +kernel

/-- one clock reading per evaluation: the (inlined) construction of an evaluation's environment
    reads the clock exactly once -/
theorem fact_one_clock_reading :
    (Generated.exprEvalEvents.filter (· == "call:Now")).length = 1 := by
  decide +kernel

example : civilFromDays 0 = (1970, 1, 1) ∧ civilFromDays (-1) = (1969, 12, 31) ∧ civilFromDays 11016 = (2000, 2, 29) ∧
    civilFromDays (-354285) = (1000, 1, 1) ∧ civilFromDays 2932896 = (9999, 12, 31) := by decide +kernel
example : isoWeek 0 = 1 ∧ isoWeek (-1) = 1 ∧ isoWeek 2 = 1 ∧ isoWeek 4 = 2 ∧ isoWeek 16070 = 1 ∧ isoWeek 16801 = 53 := by decide +kernel
example : fromMillis 0 [] [] = some "1970-01-01T00:00:00.000Z".toList := by decide +kernel
example : fromMillis 0 "[h] [P]".toList [] = some "12 am".toList := by decide +kernel
example : fromMillis 0 [] "-0030".toList = some "1969-12-31T23:30:00.000-00:30".toList := by decide +kernel
example : (match toMillis "2300-01-01T00:00:00.000Z".toList [] with | .ok ms => ms | _ => 0) = 10413792000000 := by decide +kernel

end Jsonata.Props.C19
