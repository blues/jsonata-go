/-
  Props/C09.lean — property C09: Eval is total — outcomes are returned, never thrown.

  Every function of the model is a total Lean function (Lean checked the termination of each
  one: structural recursion on lists, values or fuel), so "terminates" holds of the model by
  construction; what is proved here is that the outcome of the modelled operations is always a
  value, 'no value' or an *evaluation error* — never the model's `panic` or `fuel` outcome —
  and that the evaluator's node dispatch covers every node type the parser can produce
  (regenerated fact).  Panics that originate inside Go's reflect package have no counterpart in
  the model; for those the property is carried by the correspondence alone (DESIGN.md §6 C09).
-/
import JsonataModel.Model.Interp
import JsonataModel.Props.C03
import JsonataModel.Generated.Facts

namespace Jsonata.Props.C09
open Jsonata NumSys

variable {N : Type} [NumSys N]

/-- outcomes that may not escape an evaluation of a program without unbounded recursion -/
def Err.isCrash : Err → Bool
  | .panic _ => true
  | .fuel => true
  | _ => false

def NoCrash {α : Type} (x : Except Err α) : Prop := ∀ e, x = .error e → Err.isCrash e = false

theorem noCrash_ok {α : Type} {x : α} : NoCrash (.ok x : Except Err α) := fun _ h => nomatch h

theorem noCrash_err {α : Type} {e : Err} (h : Err.isCrash e = false) :
    NoCrash (.error e : Except Err α) := by
  rintro _ ⟨⟩; exact h

theorem noCrash_bind {α β : Type} {x : Except Err α} {f : α → Except Err β} (hx : NoCrash x)
    (hf : ∀ a, NoCrash (f a)) : NoCrash (x >>= f) := by
  cases x with
  | ok v => exact hf v
  | error e => exact noCrash_err (hx e rfl)

theorem noCrash_map {α β : Type} {f : α → β} {x : Except Err α} (h : NoCrash x) :
    NoCrash (Except.map f x) := by
  cases x with
  | ok v => exact noCrash_ok
  | error e => exact noCrash_err (h e rfl)

theorem noCrash_ite {α : Type} {c : Prop} [Decidable c] {a b : Except Err α} (ha : NoCrash a)
    (hb : NoCrash b) : NoCrash (if c then a else b) := by
  split <;> assumption

/-- For a definition that is a tree of `if`/`match` with literal outcomes at the leaves: go down to
    the leaves; a value is no crash, and on a literal error `isCrash` evaluates to `false`.  An `if` goes
    by `noCrash_ite`, which leaves its condition alone (`split` also splits the `if`s inside it); it is tried
    first and `with_reducible`, because unifying a goal about an `if` or a `match` with the wrong lemma unfolds
    them, and the instance deciding the condition with them. -/
macro "nocrash" : tactic =>
  `(tactic| repeat (first | with_reducible apply noCrash_ite | apply noCrash_ok | (apply noCrash_err; rfl) | (dsimp only) | split))

/-- the operators never crash, whatever the kinds of their operands (ill-typed programs
    produce errors or 'no value') -/
theorem operators_no_crash (op : NumOp) (cop : CmpOp) (l r : Option (Val N)) :
    NoCrash (numericOp op l r) ∧ NoCrash (comparisonOp cop l r) ∧ NoCrash (rangeOp l r) ∧
    NoCrash (negateOp l) := by
  refine ⟨?_, ?_, ?_, ?_⟩
  · unfold numericOp; nocrash
  · -- by the operator tables every outcome is a value or an evaluation error
    cases hop : C03.isOrdering cop
    · rw [C03.comparisonOp_equality cop l r (C03.isOrdering_eq cop ▸ hop)]
      exact noCrash_ok
    · have t := C03.ordering_table cop hop l r
      split at t
      · obtain ⟨b, e⟩ := t
        rw [e]; exact noCrash_ok
      · rw [t]; exact noCrash_ok
      · rw [t]; exact noCrash_err rfl
      · exact t.elim
  · unfold rangeOp; nocrash
  · unfold negateOp; nocrash

/-- argument checking of typed lambdas and built-ins reports ArgCount / ArgType errors, never a crash -/
theorem argument_checks_no_crash (sig : List Param) (ctx : Option (Val N)) (argv : List (Option (Val N)))
    (spec : BuiltinSpec) :
    NoCrash (lambdaArgCount sig ctx argv) ∧ NoCrash (goArgCount spec ctx argv) := by
  constructor
  · unfold lambdaArgCount; nocrash
  · unfold goArgCount; nocrash

theorem argtypes_no_crash (sig : List Param) (i : Nat) (argv : List (Option (Val N))) :
    NoCrash (lambdaArgTypes sig i argv) := by
  fun_induction lambdaArgTypes sig i argv with
  | case1 => exact noCrash_ok
  | case2 _ _ ih => exact noCrash_map ih
  | case3 _ _ _ _ _ _ ih => exact noCrash_map ih
  | case4 => exact noCrash_err rfl

/-- the sort-key bookkeeping reports its two errors, never a crash -/
theorem sortKeyCheck_no_crash (k : TermKind) (v : Option (Val N)) : NoCrash (sortKeyCheck k v) := by
  unfold sortKeyCheck; nocrash

theorem numbersOf_no_crash (fn : String) (v : Val N) : NoCrash (numbersOf fn v) := by
  unfold numbersOf; nocrash

/-- the aggregates and `$merge` report library errors, never a crash -/
theorem aggregates_no_crash (v : Val N) :
    NoCrash (libSum v) ∧ NoCrash (libAverage v) ∧ NoCrash (libMerge v) := by
  refine ⟨?_, ?_, ?_⟩
  · unfold libSum
    apply noCrash_bind (numbersOf_no_crash _ v)
    intro ns; unfold finiteOr; nocrash
  · unfold libAverage
    apply noCrash_bind (numbersOf_no_crash _ v)
    intro ns; unfold finiteOr; nocrash
  · unfold libMerge; nocrash

/-- string conversion (`$string`, `&`) reports a library error for non-finite numbers, never a crash -/
theorem stringify_no_crash (v : Val N) (o : Option (Val N)) :
    NoCrash (stringOf v) ∧ NoCrash (stringifyO o) := by
  have h : ∀ v : Val N, NoCrash (stringOf v) := by
    intro v; unfold stringOf; nocrash
  refine ⟨h v, ?_⟩
  unfold stringifyO
  cases o with
  | none => exact noCrash_ok
  | some v => exact h v

/-- converting the arguments of a built-in to its Go parameter types reports ArgType, never a crash:
    any value in any argument position (type-chaotic programs) -/
theorem processArgs_no_crash (params : List PT) (i : Nat) (argv : List (Option (Val N))) :
    NoCrash (processArgs params i argv) := by
  fun_induction processArgs params i argv with
  | case1 => exact noCrash_ok
  | case2 => exact noCrash_err rfl
  | case3 _ _ _ _ _ _ ih => exact noCrash_map ih

/-- `$max` / `$min` on anything -/
theorem maxmin_no_crash (v : Val N) : NoCrash (libMax v) ∧ NoCrash (libMin v) := by
  constructor
  · unfold libMax
    apply noCrash_bind (numbersOf_no_crash _ v)
    intro ns; nocrash
  · unfold libMin
    apply noCrash_bind (numbersOf_no_crash _ v)
    intro ns; nocrash

/-- `$number` on any string and `$formatBase` with any radix (numbers at the edges of the number grammar) -/
theorem number_text_no_crash (s : String) (x : N) (base : Option N) :
    NoCrash (libNumberStr (N := N) s) ∧ NoCrash (libFormatBase x base) := by
  constructor
  · unfold libNumberStr; nocrash
  · unfold libFormatBase; nocrash

/-- reading a user-supplied match object (a function used as a matcher may return anything) -/
theorem readMatch_no_crash (v : Val N) : NoCrash (readMatch v) := by
  unfold readMatch; nocrash

/-! ### regenerated fact: the evaluator's type switch handles every node type -/

/-- the node types of the model's syntax tree, by their jparse names -/
def modelNodeTypes : List String :=
  ["StringNode", "NumberNode", "BooleanNode", "NullNode", "RegexNode", "VariableNode", "NameNode",
   "PathNode", "NegationNode", "RangeNode", "ArrayNode", "ObjectNode", "BlockNode", "ConditionalNode",
   "AssignmentNode", "WildcardNode", "DescendentNode", "GroupNode", "PredicateNode", "SortNode",
   "LambdaNode", "TypedLambdaNode", "ObjectTransformationNode", "PartialNode", "FunctionCallNode",
   "FunctionApplicationNode", "NumericOperatorNode", "ComparisonOperatorNode", "BooleanOperatorNode",
   "StringConcatenationNode"]

/-- eval.go's `eval` dispatches on exactly the node types the model evaluates (the only other
    node type, PlaceholderNode, occurs only as an argument of a PartialNode) -/
theorem fact_eval_handles_all_nodes : Generated.evalNodeTypes = modelNodeTypes := by decide +kernel

/-- evaluating a placeholder outside a partial application is a modelled crash site -/
theorem placeholder_is_only_crash_site (r : Rec N) (d : Option (Val N)) (env : Nat) (s : Store N) :
    evalNode r .placeholder d env s = .error (.panic "eval: unexpected node type PlaceholderNode") := rfl

end Jsonata.Props.C09
