/-
  Props/C17.lean — property C17: regex functions agree with the regular-expression engine.

  The engine is a parameter (`RxTable`, the graph of FindAllStringSubmatchIndex supplied by the
  real engine in the correspondence).  Proved here, for every subject, match list and template:
  what `$match`, `$contains`, `$split`, `$replace`, application and `next` do with the engine's
  matches.  That the engine finds the leftmost non-overlapping RE2 matches, and the meaning of
  the flags, is the contract of Go's regexp package (trusted base).
-/
import JsonataModel.Model.Lexer
import JsonataModel.Model.Regex
import JsonataModel.Model.Interp
import JsonataModel.Generated.Facts

namespace Jsonata.Props.C17
open Jsonata Jsonata.Rx

variable {α : Type}

theorem slice_append_drop (s : List α) (a b : Nat) (h : a ≤ b) :
    slice s a b ++ s.drop b = s.drop a := by
  obtain ⟨d, rfl⟩ := Nat.exists_eq_add_of_le h
  rw [slice, Nat.add_sub_cancel_left, ← List.drop_drop, List.take_append_drop]

theorem take_append_slice (s : List α) (p a : Nat) (h : p ≤ a) :
    s.take p ++ slice s p a = s.take a := by
  obtain ⟨d, rfl⟩ := Nat.exists_eq_add_of_le h
  rw [slice, Nat.add_sub_cancel_left, List.take_add]

theorem ordered_le {len : Nat} : ∀ {pos : Nat} {ms : List (Nat × Nat)}, Ordered len pos ms → pos ≤ len
  | _, [], h => h
  | _, _ :: _, ⟨h1, h2, h⟩ => Nat.le_trans h1 (Nat.le_trans h2 (ordered_le h))

theorem orderedB_iff (len : Nat) : ∀ (pos : Nat) (ms : List (Nat × Nat)), orderedB len pos ms = true ↔ Ordered len pos ms
  | pos, [] => by simp [orderedB, Ordered]
  | pos, (a, b) :: ms => by simp [orderedB, Ordered, orderedB_iff len b ms, and_assoc]

def offs (reps : List (Nat × Nat × List α)) : List (Nat × Nat) := reps.map fun m => (m.1, m.2.1)

theorem replaceBack_eq_aux (s : List α) : ∀ (reps : List (Nat × Nat × List α)) (pos : Nat),
    Ordered s.length pos (offs reps) → replaceBack s reps = s.take pos ++ replaceSpec s pos reps
  | [], pos, _ => by simp [replaceBack, replaceSpec]
  | (a, b, r) :: ms, pos, h => by
    obtain ⟨hpa, (hab : a ≤ b), hms⟩ := h
    have hlen : (s.take b).length = b := List.length_take_of_le (ordered_le hms)
    -- the splice at `a..b` only sees the untouched prefix `s.take b` of what is already replaced
    show (replaceBack s ms).take a ++ r ++ (replaceBack s ms).drop b = _
    rw [replaceBack_eq_aux s ms b hms, List.take_append_of_le_length (by omega), List.take_take,
      Nat.min_eq_left hab, List.drop_left' hlen, replaceSpec, ← take_append_slice s pos a hpa]
    simp only [List.append_assoc]

/-- **replaceMatchFunc.**  For matches that are consecutive, non-overlapping and inside the
    subject, Go's back-to-front splicing is: untouched text, replacement, untouched text, … -/
theorem replaceBack_eq_spec (s : List α) (reps : List (Nat × Nat × List α))
    (h : Ordered s.length 0 (offs reps)) : replaceBack s reps = replaceSpec s 0 reps := by
  simpa using replaceBack_eq_aux s reps 0 h

/-- replacing every match by its own text gives the subject back (`$replace(s, re, "$0") = s`) -/
theorem replace_by_self (s : List α) : ∀ (ms : List (Nat × Nat)) (pos : Nat), Ordered s.length pos ms →
    replaceSpec s pos (ms.map fun m => (m.1, m.2, slice s m.1 m.2)) = s.drop pos
  | [], _, _ => rfl
  | (a, b) :: ms, pos, h => by
    simp only [List.map_cons, replaceSpec]
    rw [replace_by_self s ms b h.2.2, List.append_assoc, slice_append_drop s a b h.2.1,
      slice_append_drop s pos a h.1]

def weave : List (List α) → List (List α) → List α
  | [], _ => []
  | p :: _, [] => p
  | p :: ps, r :: rs => p ++ r ++ weave ps rs

theorem splitBy_length (s : List α) : ∀ (ms : List (Nat × Nat)) (pos : Nat), (splitBy s pos ms).length = ms.length + 1
  | [], _ => rfl
  | (_, b) :: ms, _ => by simp [splitBy, splitBy_length s ms b]

theorem replaceSpec_eq_weave (s : List α) : ∀ (reps : List (Nat × Nat × List α)) (pos : Nat),
    replaceSpec s pos reps = weave (splitBy s pos (offs reps)) (reps.map (·.2.2))
  | [], _ => rfl
  | (a, b, r) :: ms, pos => congrArg (slice s pos a ++ r ++ ·) (replaceSpec_eq_weave s ms b)

/-- **$split.**  The pieces are the text between consecutive matches: weaving the matched texts
    back between the pieces gives the subject (so nothing is lost or duplicated). -/
theorem split_weave (s : List α) (ms : List (Nat × Nat)) (h : Ordered s.length 0 ms) :
    weave (splitBy s 0 ms) (ms.map fun m => slice s m.1 m.2) = s := by
  have h1 := replace_by_self s ms 0 h
  have h2 := replaceSpec_eq_weave s (ms.map fun m => (m.1, m.2, slice s m.1 m.2)) 0
  simp only [offs, List.map_map, Function.comp_def, List.drop_zero] at h1 h2
  rw [h1] at h2
  simpa using h2.symm

/-- no match: `$split` returns the subject as the only piece -/
theorem split_no_match (s : List α) : splitBy s 0 [] = [s] := rfl

/-- the decimal value of a digit string -/
def natOf (ds : List Char) : Nat := ds.foldl (fun n c => n * 10 + (c.toNat - '0'.toNat)) 0

/-- **runesToNumbers** is the decimal value unless that exceeds 2^20 (no pattern has that many
    groups); it never wraps around, whatever the length of the digit string -/
theorem satNum_spec (ds : List Char) :
    (natOf ds ≤ 2 ^ 20 → satNum ds = natOf ds) ∧ (natOf ds > 2 ^ 20 → satNum ds > 2 ^ 20) := by
  -- the saturating fold and the exact fold agree until both have passed the bound, and then both stay above it
  have : satNum ds = natOf ds ∨ (2 ^ 20 < satNum ds ∧ 2 ^ 20 < natOf ds) :=
    List.foldl_rel (r := fun n e => n = e ∨ (2 ^ 20 < n ∧ 2 ^ 20 < e)) (.inl rfl) fun c _ n e h => by
      generalize c.toNat - '0'.toNat = d
      split <;> omega
  omega

/-- **$N** takes the longest prefix of the digit string that numbers an existing group -/
theorem pickGroup_some (ds : List Char) (groups : List (List Char)) :
    ∀ (n k : Nat) (g : List Char), pickGroup ds groups n = some (k, g) →
      1 ≤ k ∧ k ≤ n ∧ satNum (ds.take k) - 1 < groups.length ∧
      g = groups.getD (satNum (ds.take k) - 1) [] ∧
      ∀ j, k < j → j ≤ n → ¬ (satNum (ds.take j) - 1 < groups.length) := by
  intro n
  fun_induction pickGroup ds groups n with
  | case1 => exact fun _ _ h => nomatch h
  | case2 n _ hlt =>
    rintro _ _ ⟨⟩
    exact ⟨by omega, Nat.le_refl _, hlt, rfl, fun j h1 h2 => by omega⟩
  | case3 n _ hge ih =>
    intro k g h
    obtain ⟨h1, h2, h3, h4, h5⟩ := ih k g h
    refine ⟨h1, by omega, h3, h4, fun j hj1 hj2 => ?_⟩
    rcases Nat.lt_or_eq_of_le hj2 with hlt | rfl
    · exact h5 j hj1 (by omega)
    · exact hge

/-- no prefix numbers an existing group: nothing is inserted -/
theorem pickGroup_none (ds : List Char) (groups : List (List Char)) :
    ∀ (n : Nat), pickGroup ds groups n = none → ∀ j, 1 ≤ j → j ≤ n → ¬ (satNum (ds.take j) - 1 < groups.length) := by
  intro n
  fun_induction pickGroup ds groups n with
  | case1 => exact fun _ j h1 h2 => by omega
  | case2 => exact fun h => nomatch h
  | case3 n _ hge ih =>
    intro h j h1 h2
    rcases Nat.lt_or_eq_of_le h2 with hlt | rfl
    · exact ih h j h1 (by omega)
    · exact hge

theorem expand_cons_ne (m : List Char) (g : List (List Char)) (fuel : Nat) (c : Char) (cs : List Char)
    (hne : c ≠ '$') : expand m g (fuel + 1) (c :: cs) = c :: expand m g fuel cs := by
  rw [expand]
  exact hne

/-- a template without `$` is copied -/
theorem expand_plain (m : List Char) (g : List (List Char)) :
    ∀ (t : List Char) (fuel : Nat), (∀ c ∈ t, c ≠ '$') → t.length ≤ fuel → expand m g fuel t = t
  | [], fuel, _, _ => by cases fuel <;> rfl
  | c :: cs, 0, _, h => nomatch h
  | c :: cs, fuel + 1, hc, h => by
    rw [expand_cons_ne m g fuel c cs (hc c (.head _)),
      expand_plain m g cs fuel (fun x hx => hc x (.tail _ hx)) (Nat.le_of_succ_le_succ h)]

/-- `$0` is the match, `$$` a dollar sign, a `$` before a non-digit or at the end stays -/
theorem expand_rules (m : List Char) (g : List (List Char)) (fuel : Nat) (rest : List Char) (c : Char)
    (hc : isDigit c = false) (hd : c ≠ '$') :
    expand m g (fuel + 1) ('$' :: '0' :: rest) = m ++ expand m g fuel rest ∧
    expand m g (fuel + 1) ('$' :: '$' :: rest) = '$' :: expand m g fuel rest ∧
    expand m g (fuel + 1) ['$'] = ['$'] ∧
    expand m g (fuel + 1) ('$' :: c :: rest) = '$' :: expand m g fuel (c :: rest) := by
  refine ⟨rfl, rfl, rfl, ?_⟩
  simp [expand, hc, hd]

/-- `$N…`: the group picked by `pickGroup` is inserted and exactly its digits are consumed -/
theorem expand_group (m : List Char) (g : List (List Char)) (fuel : Nat) (r : Char) (rest : List Char)
    (hd : isDigit r = true) (h0 : r ≠ '0') :
    expand m g (fuel + 1) ('$' :: r :: rest) =
      match pickGroup ((r :: rest).takeWhile isDigit) g ((r :: rest).takeWhile isDigit).length with
      | some (k, txt) => txt ++ expand m g fuel ((r :: rest).drop k)
      | none => expand m g fuel rest := by
  have h1 : r ≠ '$' := by rintro rfl; exact absurd hd (by decide)
  simp [expand, hd, h1, h0]
  rfl

variable {N : Type} [NumSys N]

/-- applying a regex to a string gives the first match object, or no value -/
theorem regex_apply (r : Rec N) (pat : String) (tbl : RxTable) (s : String) (ms : List MatchRec)
    (st : Store N) (h : tbl.lookup s = some ms) :
    callVal r (.regexFn pat tbl) none [some (.str s)] st = .ok (firstMatch ms, st) := by
  rw [callVal, h]
  rfl

/-- the `next` member of the k-th match object enumerates the remaining matches in order and
    finally gives no value -/
theorem next_enumerates (r : Rec N) (m : MatchRec) (rest : List MatchRec) (st : Store N) :
    objGet (match (matchObj m rest : Val N) with | .obj kvs => kvs | _ => []) "next" = some (.matchNext rest) ∧
    callVal r (.matchNext rest) none [] st = .ok (firstMatch rest, st) ∧
    (firstMatch ([] : List MatchRec) : Option (Val N)) = none :=
  ⟨rfl, rfl, rfl⟩

/-- a match object carries the matched text, its offsets and its groups -/
theorem matchObj_members (m : MatchRec) (rest : List MatchRec) :
    (matchObj m rest : Val N) = .obj [("end", .num (NumSys.ofInt m.stop)), ("groups", .arr (m.groups.map .str)),
      ("match", .str m.text), ("next", .matchNext rest), ("start", .num (NumSys.ofInt m.start))] := rfl

/-- `$contains` with a regex is "there is a match": the first match exists iff the list is non-empty -/
theorem contains_iff (ms : List MatchRec) : ((firstMatch ms : Option (Val N)).isSome = true) ↔ ms ≠ [] := by
  cases ms <;> simp [firstMatch]

/-! ### facts regenerated from callable.go and jlib/string.go -/

def eventsOf (fn : String) : List String := (Generated.regexFuncEvents.lookup fn).getD []

def keyNames : List String := ["key:match", "key:start", "key:end", "key:groups", "key:next", "key:index"]

/-- the engine call, the members of the match objects, and that each of the four functions that accept a
    user-written matcher checks what it returns (number offsets, an array of strings for the groups, an error
    otherwise).  Stated over the exported entry points, whose traces are inlined through the package-local
    helpers: the helpers' names do not occur, so renaming or regrouping them raises no alarm -/
theorem fact_regex_functions :
    (eventsOf "regexCallable.Call").contains "call:FindAllStringSubmatchIndex" = true ∧
    (eventsOf "matchCallable.Call").filter keyNames.contains = ["key:match", "key:start", "key:end", "key:groups", "key:next"] ∧
    (eventsOf "Match").filter keyNames.contains = ["key:match", "key:index", "key:groups"] ∧
    (eventsOf "Replace").filter keyNames.contains = ["key:match", "key:index", "key:groups"] ∧
    (["Match", "Contains", "Split", "Replace"].all fun f =>
      (eventsOf f).contains "call:AsNumber" && (eventsOf f).contains "call:IsArrayOf" && (eventsOf f).contains "call:Errorf") = true := by
  decide +kernel

/-- the flag letters the model's lexer accepts after a literal are i, m, s (tied to the implementation by the
    harness's sweep over every letter as a flag, not by reading the source) -/
theorem regex_flag_letters : ((List.range 128).filter Jsonata.Lex.isRegexFlag) = [105, 109, 115] := by decide +kernel

/-! ### non-vacuity -/

example : Ordered 5 0 [(1, 2), (2, 4)] := (orderedB_iff 5 0 _).mp (by decide)
example : replaceBack "abcde".toList [(1, 2, "XY".toList), (2, 4, [])] = "aXYe".toList := by decide +kernel
example : splitBy "abcde".toList 0 [(1, 2), (2, 4)] = ["a".toList, [], "e".toList] := by decide +kernel
example : expand "M".toList ["g1".toList] 20 "a$0-$1$12$$$x$".toList = "aM-g1g12$$x$".toList := by decide +kernel
example : satNum "99999999999999999999".toList > 2 ^ 20 := by decide +kernel

end Jsonata.Props.C17
