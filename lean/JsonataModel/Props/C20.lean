/-
  Props/C20.lean — property C20: extensions — argument passing, typed failures, registry visibility.

  Proved: the conversion relation between JSONata values and Go parameter types (strings only
  to string/[]byte, numbers to every numeric kind, everything to interface{}/reflect.Value,
  undefined only to optional/interface{}/reflect.Value), the order handlers → counting →
  conversion of goCallable.Call with the position reported by ArgTypeError, and the registry
  state machine: a registration on one expression never changes another expression's view, a
  package-level registration never changes an expression that already exists, a new expression
  sees exactly the package level at its compilation — lifted to all operation sequences.
  The tie of the Go reflection machinery (reflect.Convert, AssignableTo) to this relation is
  the correspondence over generated signatures.
-/
import JsonataModel.Model.Ext
import JsonataModel.Lemmas.Assoc
import JsonataModel.Generated.Facts

namespace Jsonata.Props.C20
open Jsonata Jsonata.Ext

variable {N : Type} [NumSys N]

/-! ### the conversion relation -/

/-- only strings convert to a string parameter (numbers, booleans, null, arrays, objects and
    functions do not) -/
theorem string_param_only_strings (v : Val N) :
    (convert (some v) .str).isSome = true ↔ v.isStr = true := by
  cases v <;> exact Iff.rfl

/-- strings convert to string and []byte and to nothing numeric or boolean -/
theorem string_arg (s : String) :
    (convert (some (.str s : Val N)) .str).isSome = true ∧ (convert (some (.str s : Val N)) .bytes).isSome = true ∧
    (convert (some (.str s : Val N)) .f64).isSome = false ∧ (convert (some (.str s : Val N)) .int).isSome = false ∧
    (convert (some (.str s : Val N)) .u8).isSome = false ∧ (convert (some (.str s : Val N)) .bool).isSome = false := by
  simp [convert, convertPlain]

/-- numbers convert to every numeric kind (float64 unchanged, integers by truncation) -/
theorem number_arg (x : N) :
    (convert (some (.num x)) .f64 = some (Recv.f64 x)) ∧
    (convert (some (.num x)) .int = some (Recv.int (NumSys.toInt x))) ∧
    (convert (some (.num x)) .u8 = some (Recv.u8 (NumSys.toInt x))) ∧
    (convert (some (.num x : Val N)) .str).isSome = false ∧ (convert (some (.num x : Val N)) .bool).isSome = false := by
  simp [convert, convertPlain]

/-- every value is accepted unchanged by interface{} and reflect.Value parameters -/
theorem any_param (v : Val N) :
    convert (some v) .iface = some (.any v) ∧ convert (some v) .value = some (.any v) :=
  ⟨rfl, rfl⟩

/-- an undefined argument is accepted exactly by optional, interface{} and reflect.Value
    parameters, and leaves an optional unset -/
theorem undefined_arg (t : GoTy) :
    (convert (none : Option (Val N)) t).isSome = true ↔ (t.isOpt = true ∨ t = .iface ∨ t = .value) := by
  cases t <;> simp [convert, GoTy.isOpt]

theorem undefined_optional (t : GoTy) : convert (none : Option (Val N)) (.opt t) = some .optUnset := rfl

/-- a defined argument of an optional parameter is converted to the underlying type and set -/
theorem optional_set (v : Val N) (t : GoTy) : convert (some v) (.opt t) = (convertPlain v t).map .optSet := rfl

/-- containers and functions: arrays to []interface{}, objects to map[string]interface{},
    function values to Callable, nothing else -/
theorem container_params (v : Val N) :
    ((convert (some v) .slice).isSome = true ↔ v.isArr = true) ∧
    ((convert (some v) .map).isSome = true ↔ v.isObj = true) ∧
    ((convert (some v) .callable).isSome = true ↔ v.isFn = true) := by
  cases v <;> exact ⟨Iff.rfl, Iff.rfl, Iff.rfl⟩

/-! ### the call -/

/-- the undefined handler wins over counting and typing: the call yields no value -/
theorem call_undefined_handler (spec : Spec) (ctx : Option (Val N)) (argv : List (Option (Val N)))
    (hc : chFires spec.ch argv = false) (hu : uhFires spec.uh argv = true) :
    (match call spec ctx argv with | .undef => true | _ => false) = true := by
  simp [call, hc, hu]

/-- the context handler prepends the context item and nothing else changes -/
theorem call_context_handler (spec : Spec) (ctx : Option (Val N)) (argv : List (Option (Val N)))
    (hc : chFires spec.ch argv = true) :
    call spec ctx argv = call { spec with ch := .none_ } ctx (ctx :: argv) := by
  have h2 : chFires (N := N) CHk.none_ (ctx :: argv) = false := rfl
  unfold call
  simp only [hc, h2, if_true]
  rfl

/-- one entry per argument, or the 1-based position of the first argument that does not convert
    (`m` is its offset among the arguments at hand) -/
theorem convertAll_spec (ps : List GoTy) (i : Nat) (as : List (Option (Val N))) :
    match convertAll ps i as with
    | .ok out => out.length = as.length
    | .error k => ∃ m, k = i + m + 1 ∧ m < as.length ∧
        convert (as.getD m none) ((ps[i + m]?).getD (ps.getLast?.getD .iface)) = none ∧
        ∀ j, j < m → (convert (as.getD j none) ((ps[i + j]?).getD (ps.getLast?.getD .iface))).isSome = true := by
  fun_induction convertAll ps i as with
  | case1 => rfl
  | case2 i a as t hnone => exact ⟨0, rfl, Nat.zero_lt_succ _, hnone, fun j hj => nomatch hj⟩
  | case3 i a as t r hsome ih =>
    cases hr : convertAll ps (i + 1) as with
    | ok tl => rw [hr] at ih; exact congrArg (· + 1) ih
    | error e =>
      rw [hr] at ih
      obtain ⟨m, rfl, hm, hbad, hgood⟩ := ih
      simp only [Nat.add_right_comm i 1] at hbad hgood
      refine ⟨m + 1, by omega, Nat.succ_lt_succ hm, hbad, fun j hj => ?_⟩
      cases j with
      | zero => exact hsome ▸ rfl
      | succ j => exact hgood j (Nat.lt_of_succ_lt_succ hj)

/-- a non-variadic function is called only with exactly one (converted) argument per parameter -/
theorem call_arity (spec : Spec) (ctx : Option (Val N)) (argv : List (Option (Val N))) (rs : List (Recv N))
    (hv : spec.variadic = false) (h : call spec ctx argv = .called rs) : rs.length = spec.params.length := by
  unfold call at h
  generalize (if chFires spec.ch argv = true then ctx :: argv else argv) = argv1 at h
  simp only [hv, Bool.false_and, Bool.false_eq_true, if_false, Bool.not_false, Bool.true_and, bne_iff_ne,
    ne_eq, ite_not] at h
  have hl := convertAll_spec spec.params 0 (padOptional (spec.params.map GoTy.isOpt) argv1)
  split at h
  · cases h
  · split at h
    · next hn =>
      split at h
      · cases h
      · next hconv => cases h; rw [hconv] at hl; exact hl.trans hn
    · cases h

/-- too few or too many arguments for a non-variadic function: ArgCountError, whatever the types -/
theorem call_count_error (spec : Spec) (ctx : Option (Val N)) (argv : List (Option (Val N)))
    (hv : spec.variadic = false) (hc : chFires spec.ch argv = false) (hu : uhFires spec.uh argv = false)
    (hn : (padOptional (spec.params.map GoTy.isOpt) argv).length ≠ spec.params.length) :
    (match call spec ctx argv with | .argCount => true | _ => false) = true := by
  simp [call, hc, hu, hv, hn]

/-- ArgTypeError names the first argument that does not fit (1-based) -/
theorem convertAll_first_misfit (ps : List GoTy) : ∀ (i : Nat) (as : List (Option (Val N))) (k : Nat),
    convertAll ps i as = .error k → i < k ∧ k ≤ i + as.length ∧
      convert (as.getD (k - 1 - i) none) ((ps[k - 1]?).getD (ps.getLast?.getD .iface)) = none ∧
      ∀ j, j < k - 1 - i → (convert (as.getD j none) ((ps[i + j]?).getD (ps.getLast?.getD .iface))).isSome = true := by
  intro i as k h
  have hs := convertAll_spec ps i as
  rw [h] at hs
  obtain ⟨m, rfl, hm, hbad, hgood⟩ := hs
  have e : i + m + 1 - 1 - i = m := by omega
  rw [e, Nat.add_sub_cancel]
  exact ⟨by omega, by omega, hbad, hgood⟩

/-! ### registries -/

theorem reg_get_set (r : Reg) (k k' : String) (v : Nat) :
    (r.set k v).get k' = if k = k' then some v else r.get k' := by
  rw [Reg.set, Reg.get, List.find?_cons, find?_filter_ne]
  by_cases h : k = k'
  · simp [h]
  · rw [beq_false_of_ne h, if_neg h, if_neg h]; rfl

theorem lookup_regLocal (w : World) (e e' : Nat) (k k' : String) (v : Nat) (he : e' < w.exprs.length) :
    lookup (step w (.regLocal e k v)) e' k' = if e = e' ∧ k = k' then some v else lookup w e' k' := by
  simp only [lookup, step, List.getD, List.getElem?_modify, List.getElem?_eq_getElem he]
  by_cases h : e = e'
  · simpa [h] using reg_get_set _ k k' v
  · simp [h]

/-- a registration on expression `e` is visible on `e` -/
theorem regLocal_same (w : World) (e : Nat) (k : String) (v : Nat) (he : e < w.exprs.length) :
    lookup (step w (.regLocal e k v)) e k = some v := by
  rw [lookup_regLocal w e e k k v he, if_pos ⟨rfl, rfl⟩]

/-- a package-level registration does not change any existing expression -/
theorem regGlobal_existing (w : World) (e : Nat) (k k' : String) (v : Nat) :
    lookup (step w (.regGlobal k v)) e k' = lookup w e k' := rfl

/-- Compile: the new expression sees exactly the package level of that moment; the others are unchanged -/
theorem compile_snapshot (w : World) (k : String) :
    lookup (step w .compile) w.exprs.length k = w.global.get k ∧
    ∀ e, e < w.exprs.length → lookup (step w .compile) e k = lookup w e k := by
  constructor
  · simp [lookup, step, List.getD]
  · intro e he
    simp [lookup, step, List.getD, List.getElem?_append_left he]

/-- **Visibility over histories.**  Whatever happens afterwards — any number of package-level
    registrations, compilations and registrations on other expressions — an existing
    expression's view of a name only changes through a registration on that expression. -/
theorem view_stable (e : Nat) (k : String) : ∀ (ops : List Op) (w : World), e < w.exprs.length →
    (∀ op ∈ ops, ∀ k' v, op ≠ .regLocal e k' v ∨ k' ≠ k) →
    lookup (ops.foldl step w) e k = lookup w e k
  | [], _, _, _ => rfl
  | op :: ops, w, he, h => by
    have hlen : e < (step w op).exprs.length := by
      cases op <;> simp [step] <;> omega
    rw [List.foldl_cons, view_stable e k ops (step w op) hlen (fun o ho => h o (List.mem_cons_of_mem _ ho))]
    cases op with
    | regGlobal k' v => rfl
    | compile => exact (compile_snapshot w k).2 e he
    | regLocal e' k' v =>
      rw [lookup_regLocal w e' e k' k v he, if_neg]
      rintro ⟨rfl, rfl⟩
      exact (h _ List.mem_cons_self _ _).elim (· rfl) (· rfl)

/-- expressions compiled later see the package-level registration made before their compilation -/
theorem global_then_compile (w : World) (k : String) (v : Nat) :
    lookup (step (step w (.regGlobal k v)) .compile) w.exprs.length k = some v := by
  have := (compile_snapshot (step w (.regGlobal k v)) k).1
  simp only [step] at this ⊢
  rw [this, reg_get_set, if_pos rfl]

/-! ### registration-time validation -/

theorem validParams_rules :
    validParams [.f64, .opt .int] false = true ∧ validParams [.opt .int, .f64] false = false ∧
    validParams [.opt (.opt .f64)] false = false ∧ validParams [.f64, .opt .int] true = false ∧
    validParams [.f64, .str] true = true ∧ validParams [] false = true := by decide

theorem validName_rules :
    validName "" = false ∧ validName "a b" = false ∧ validName "a-b" = false ∧ validName "$x" = false ∧
    validName "x.y" = false ∧ validName "a_1" = true ∧ validName "_" = true ∧ validName "9" = true := by decide +kernel

/-! ### regenerated facts -/

/-- the package-level registry is copied under the read lock (by Compile, or by the helper it calls: the
    function is not named here, so that moving the locking into a helper raises no alarm); package-level
    registration writes it under the write lock (handing the registry to a helper by address counts as writing
    it); every function that touches it locks before the first use and unlocks -/
theorem fact_registry_locking :
    Generated.registryLocking.all (fun r => r.2.2.1 && r.2.2.2.1 && (!r.2.2.2.2 || r.2.1 == "W")) = true ∧
    Generated.registryLocking.any (fun r => r.2.1 == "R" && !r.2.2.2.2) = true ∧
    Generated.registryLocking.any (fun r => r.2.2.2.2) = true := by
  decide +kernel

/-- a new evaluation environment is built for each Eval and the expression's registry is bound into it (the
    inlined trace of Eval stores into an environment's frame and calls the clock once for `$now`/`$millis`); that
    the built-ins of the base environment are visible in it is the correspondence's part -/
theorem fact_env_assembly :
    Generated.exprEvalEvents.contains "write:recv:environment" = true ∧ Generated.exprEvalEvents.contains "call:Now" = true := by
  decide +kernel

/-! ### non-vacuity -/

example : (match call (N := Int) { params := [.f64, .opt .str], variadic := false, ch := .none_, uh := .none_ } none [some (.num 3)] with
    | .called [.f64 3, .optUnset] => true | _ => false) = true := by decide
example : (match call (N := Int) { params := [.str], variadic := false, ch := .none_, uh := .none_ } none [some (.num 3)] with
    | .argType 1 => true | _ => false) = true := by decide
example : (match call (N := Int) { params := [.str], variadic := false, ch := .whenNoArgs, uh := .none_ } (some (.str "c")) [] with
    | .called [.str "c"] => true | _ => false) = true := by decide
example : lookup ([Op.regGlobal "a" 1, .compile, .regGlobal "a" 2, .compile, .regLocal 0 "a" 3].foldl step {}) 0 "a" = some 3 ∧
    lookup ([Op.regGlobal "a" 1, .compile, .regGlobal "a" 2, .compile, .regLocal 0 "a" 3].foldl step {}) 1 "a" = some 2 := by decide

end Jsonata.Props.C20
