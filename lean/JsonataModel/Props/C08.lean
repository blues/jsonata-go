/-
  Props/C08.lean — property C08: Compile is total: an expression or a typed parse error,
  never a panic or a hang.

  The model's lexer and parser are total Lean functions: every scanner loop and the Pratt recursion are
  structurally recursive on a fuel bounded by the input length, the optimiser on the tree.  Proved here: the scanner
  primitives `nextRune`, `backup`, `accept` and `newToken` keep the position invariant `Inv` (start ≤ current ≤ length),
  under which a token's slice and an error's position are in range — primitive by primitive; `Inv` is not carried
  through `next` as a whole.  The lexer cannot loop: every token other than EOF consumes at least one byte
  (`next_progress`), lexing terminates (`lexAll_terminates`), and the budget of the Pratt parser and of every loop it
  runs always suffices (`parse_never_out_of_fuel`, end to end `parse_never_fuel`): every error of `parse` has one of the
  types in `modelErrorTypes` (`parse_error_typed`), and that list is jparse's (`fact_parse_error_enum`, regenerated).
  Signature parsing and escape decoding are total with typed errors.
-/
import JsonataModel.Model.Parser
import JsonataModel.Lemmas.LexerProgress
import JsonataModel.Generated.Facts

namespace Jsonata.Props.C08
open Jsonata Jsonata.Lex Jsonata.Parse
open Jsonata.LexerProgress (Inv lexAll R LexErr Post advance_R R_le fuel_ind)

/-! ### the lexer's primitives keep the position invariant, and the lexer makes progress

The progress theorems rest on the scanner-by-scanner lemmas of `Lemmas/LexerProgress.lean` (shared with C04) and are
restated here so that they are audited with the property. -/

theorem decodeRune_width (inp : Input) (i : Nat) (h : i < inp.size) :
    1 ≤ (decodeRune inp i).2 ∧ i + (decodeRune inp i).2 ≤ inp.size :=
  LexerProgress.decodeRune_width inp i h

theorem nextRune_inv (inp : Input) (s : LState) (h : Inv inp s) :
    Inv inp (nextRune inp s).2 ∧ s.current ≤ (nextRune inp s).2.current := by
  obtain ⟨h1, h2, h3⟩ := h
  obtain ⟨-, c, w, st⟩ := LexerProgress.nextRune_at inp s
  have := LexerProgress.widthAt_le inp s.current h2
  unfold LexerProgress.Inv
  omega

/-- reading a rune makes progress unless the input is exhausted -/
theorem nextRune_progress (inp : Input) (s : LState) (h : s.current < inp.size) :
    s.current < (nextRune inp s).2.current := by
  obtain ⟨-, c, -⟩ := LexerProgress.nextRune_at inp s
  have := LexerProgress.widthAt_pos inp s.current h
  omega

/-- backing up after a read returns exactly to the position before the read -/
theorem backup_after_next (inp : Input) (s : LState) :
    (backup (nextRune inp s).2).current = s.current :=
  LexerProgress.backup_after_next inp s

theorem backup_inv (inp : Input) (s : LState) (h : Inv inp s) : Inv inp (backup s) := by
  obtain ⟨h1, h2, h3⟩ := h
  unfold backup LexerProgress.Inv
  simp
  omega

/-- a second back-up does nothing (the stale-width defect cannot recur) -/
theorem backup_idempotent (s : LState) : backup (backup s) = backup s := by
  simp [backup]

theorem accept_inv (inp : Input) (p : Nat → Bool) (s : LState) (h : Inv inp s) :
    Inv inp (accept inp p s).2 ∧ s.current ≤ (accept inp p s).2.current := by
  unfold accept
  have hn := nextRune_inv inp s h
  simp only []
  split
  · exact hn
  · exact ⟨backup_inv inp _ hn.1, Nat.le_of_eq (backup_after_next inp s).symm⟩

/-- a token's value is a slice inside the input -/
theorem newToken_in_range (inp : Input) (tt : Tok) (s : LState) (h : Inv inp s) :
    (newToken tt s).1.lo ≤ (newToken tt s).1.hi ∧ (newToken tt s).1.hi ≤ inp.size ∧
    (newToken tt s).1.position ≤ inp.size ∧ Inv inp (newToken tt s).2 := by
  obtain ⟨h1, h2, h3⟩ := h
  unfold newToken LexerProgress.Inv
  simp
  omega

/-- an error's position is inside the input -/
theorem lexError_position (inp : Input) (typ hint : String) (s : LState) (h : Inv inp s) :
    (lexError typ hint s).position ≤ inp.size := by
  obtain ⟨h1, h2, h3⟩ := h
  unfold lexError
  simp; omega

/-- **The lexer makes progress.**  Whenever `next` returns a token other than EOF, the position
    has moved forward by at least one byte — for every input (valid UTF-8 or not), every start
    state and either regex mode.  Hence a token stream has at most |input| tokens before EOF: the
    lexer cannot loop. -/
theorem next_progress (inp : Input) (allowRegex : Bool) (s0 : LState) (t : Token) (s' : LState)
    (h : next inp allowRegex s0 = .ok (t, s')) (hne : t.type ≠ .eof) : s0.current < s'.current :=
  LexerProgress.next_progress inp allowRegex s0 t s' h hne

/-- a token other than EOF is only produced when input is left -/
theorem next_noneof_lt (inp : Input) (allowRegex : Bool) (s0 : LState) (t : Token) (s' : LState)
    (h : next inp allowRegex s0 = .ok (t, s')) (hne : t.type ≠ .eof) : s0.current < inp.size :=
  (((LexerProgress.next_spec inp allowRegex s0).of_ok h).2 hne).2

/-- **Lexing terminates.**  From any state, |remaining input| + 1 steps are enough to reach EOF or a
    lexical error: the budget is never the reason to stop, and there are at most |input| tokens before EOF. -/
theorem lexAll_terminates (inp : Input) (n : Nat) (s : LState) (h : inp.size - s.current < n) :
    (lexAll inp n s).isSome = true ∧
    (∀ ts, lexAll inp n s = some (.ok ts) → ts.length ≤ inp.size - s.current + 1) :=
  LexerProgress.lexAll_terminates inp n s h

/-- `next` never moves backwards (also when it returns EOF) -/
theorem next_ge (inp : Input) (allowRegex : Bool) (s0 : LState) (t : Token) (s' : LState)
    (h : next inp allowRegex s0 = .ok (t, s')) : s0.current ≤ s'.current :=
  ((LexerProgress.next_spec inp allowRegex s0).of_ok h).1

/-! ### the parser fails only with jparse's error types, never for lack of fuel -/

def modelErrorTypes : List String :=
  ["ErrSyntaxError", "ErrUnexpectedEOF", "ErrUnexpectedToken", "ErrMissingToken", "ErrPrefix", "ErrInfix",
   "ErrUnterminatedString", "ErrUnterminatedRegex", "ErrUnterminatedName", "ErrIllegalEscape",
   "ErrIllegalEscapeHex", "ErrInvalidNumber", "ErrNumberRange", "ErrEmptyRegex", "ErrInvalidRegex",
   "ErrGroupPredicate", "ErrGroupGroup", "ErrPathLiteral", "ErrIllegalAssignment", "ErrIllegalParam",
   "ErrDuplicateParam", "ErrParamCount", "ErrInvalidUnionType", "ErrUnmatchedOption", "ErrUnmatchedSubtype",
   "ErrInvalidSubtype", "ErrInvalidParamType"]

/-- they are jparse's `ErrType` constants (`Generated.parseErrNames` is regenerated from jparse/error.go) -/
theorem fact_parse_error_enum : Generated.parseErrNames = "_" :: modelErrorTypes := by decide +kernel

theorem typed_not_fuel {ty : String} (h : ty ∈ modelErrorTypes) : ty ≠ "fuel" := by
  intro hf
  rw [hf] at h
  revert h
  decide +kernel

theorem lexErr_typed (e : PErr) (h : LexErr e) : e.type ∈ modelErrorTypes := by
  rcases h with h | h | h <;> (rw [h]; simp [modelErrorTypes])

/-- an error leaf; the membership is a fact about literals and is left to `simp` where the lemma is used -/
theorem typed_err {α : Type} {Q : α → Prop} {e : PErr}
    (h : e.type ∈ modelErrorTypes := by simp [modelErrorTypes, tokErr]) : Post (·.type ∈ modelErrorTypes) Q (.error e) := h

/-- a parser step is *fine* below `b`: it fails only with one of jparse's error types (so not for lack of fuel),
    and the state `st x` that its result carries has fewer than `b` tokens left -/
def Fine {α : Type} (st : α → PState) (inp : Input) (b : Nat) : Except PErr α → Prop :=
  Post (·.type ∈ modelErrorTypes) fun x => R inp (st x) < b

section
variable {α β : Type} {st : α → PState} {st' : β → PState} {inp : Input} {b b' : Nat}

theorem Fine.mono {r : Except PErr α} (h : Fine st inp b r) (hb : b ≤ b') : Fine st inp b' r :=
  Post.mono h fun _ hx => Nat.lt_of_lt_of_le hx hb

theorem Fine.bind {m : Except PErr α} {f : α → Except PErr β} (hm : Fine st inp b m)
    (hf : ∀ x, R inp (st x) < b → Fine st' inp b' (f x)) : Fine st' inp b' (m >>= f) :=
  Post.bind hm hf

theorem Fine.bind2 {m : PM α} {f : α × PState → Except PErr β} (hm : Fine (·.2) inp b m)
    (hf : ∀ x q, R inp q < b → Fine st' inp b' (f (x, q))) : Fine st' inp b' (m >>= f) :=
  hm.bind fun (x, q) h => hf x q h

end

theorem advance_fine (inp : Input) (ar : Bool) (p : PState) :
    Fine (fun q => q) inp (R inp p + 1) (advance inp ar p) ∧
    (p.tok.type ≠ .eof → Fine (fun q => q) inp (R inp p) (advance inp ar p)) := by
  cases h : advance inp ar p with
  | ok q => exact ⟨Nat.lt_succ_of_le (advance_R inp ar p q h).1, (advance_R inp ar p q h).2⟩
  | error e =>
    have he : LexErr e := (LexerProgress.advance_spec inp ar p).of_error h
    exact ⟨lexErr_typed e he, fun _ => lexErr_typed e he⟩

/-- the token consumed is a literal in every use, so that it is not EOF is left to `decide` there -/
theorem consume_fine (inp : Input) (t : Tok) (ar : Bool) {p : PState} {b : Nat} (h : R inp p ≤ b)
    (ht : t ≠ .eof := by decide) : Fine (fun q => q) inp b (consume inp t ar p) := by
  unfold consume
  split
  · refine typed_err ?_
    split <;> simp [modelErrorTypes, tokErr]
  · rename_i hne
    have : p.tok.type = t := by simpa using hne
    exact ((advance_fine inp ar p).2 (by rw [this]; exact ht)).mono h

theorem Fine.close {α : Type} {inp : Input} {b : Nat} {x : α} {t : Tok} {ar : Bool} {p : PState} (h : R inp p < b)
    (ht : t ≠ .eof := by decide) : Fine (·.2) inp b (do let q ← consume inp t ar p; .ok (x, q)) :=
  (consume_fine inp t ar (Nat.le_of_lt h) ht).bind fun _ h => h

/-- `pe` is fine on every state with at most `B` tokens left: what the induction on `parseExpr`'s fuel provides -/
def GoodPE (inp : Input) (pe : Nat → PState → PM PNode) (B : Nat) : Prop :=
  ∀ rbp p, R inp p ≤ B → Fine (·.2) inp (R inp p + 1) (pe rbp p)

theorem GoodPE.keeps {inp : Input} {pe : Nat → PState → PM PNode} {B : Nat} (hpe : GoodPE inp pe B) {p : PState}
    (hp : R inp p ≤ B) (rbp : Nat) {q : PState} (hq : R inp q < R inp p + 1) :
    Fine (·.2) inp (R inp p + 1) (pe rbp q) :=
  (hpe rbp q (Nat.le_trans (Nat.le_of_lt_succ hq) hp)).mono hq

/-- the tail of the six list loops: stop, or consume the separator and go round again; the separator takes a token
    away, so by `fuel_ind` a budget above `R` is enough -/
theorem Fine.more {β γ : Type} {st : β → PState} {st' : γ → PState} {inp : Input} {B : Nat} {p p1 : PState} {sep : Tok}
    {r0 : γ} {loop : PState → Except PErr β} {k : β → Except PErr γ} (hp : R inp p ≤ B)
    (h1 : R inp p1 < R inp p + 1) (h0 : R inp (st' r0) < R inp p + 1)
    (ih : ∀ q, R inp q < R inp p → R inp q ≤ B → Fine st inp (R inp q + 1) (loop q))
    (hk : ∀ y, R inp (st y) < R inp p + 1 → Fine st' inp (R inp p + 1) (k y)) (hs : sep ≠ .eof := by decide) :
    Fine st' inp (R inp p + 1)
      (if p1.tok.type != sep then .ok r0 else consume inp sep true p1 >>= fun p2 => loop p2 >>= k) := by
  split
  · exact h0
  · exact (consume_fine inp sep true (Nat.le_of_lt_succ h1) hs).bind fun p2 h2 =>
      ((ih p2 h2 (by omega)).mono (Nat.succ_le_succ (Nat.le_of_lt h2))).bind hk

theorem parseList_fine (inp : Input) (item : PState → PM PNode) (B : Nat)
    (hitem : ∀ q, R inp q ≤ B → Fine (·.2) inp (R inp q + 1) (item q)) :
    ∀ n p, R inp p < n → R inp p ≤ B → Fine (·.2) inp (R inp p + 1) (parseList inp n item p) :=
  fuel_ind fun n p ih hp => by
    unfold parseList
    refine (hitem p hp).bind2 fun x p1 h1 => ?_
    exact Fine.more hp h1 h1 ih fun _ h => h

theorem sigLoop_fine (inp : Input) :
    ∀ n p, R inp p < n → ∀ depth sig, Fine (·.2) inp (R inp p + 1) (sigLoop inp n depth sig p) :=
  fuel_ind fun n p ih depth sig => by
    unfold sigLoop
    split
    · exact Nat.lt_succ_self _
    · rename_i hstop
      have hne : p.tok.type ≠ .eof := by intro he; apply hstop; simp [he]
      refine ((advance_fine inp true p).2 hne).bind fun p1 h1 => ?_
      have again : ∀ d s, Fine (·.2) inp (R inp p + 1) (sigLoop inp n d s p1) :=
        fun d s => (ih p1 h1 d s).mono (by omega)
      split
      · split
        · exact Nat.lt_succ_of_lt h1
        · exact again _ _
      · exact again _ _
      · exact again _ _

theorem types_typed (l : List Char) (acc : Nat) :
    Post (·.type ∈ modelErrorTypes) (fun _ => True) (parseParams.types l acc) := by
  fun_induction parseParams.types l acc
  · trivial
  · assumption
  · exact typed_err

theorem parseParams_typed (n : Nat) (s : List Char) (ps : List Param) :
    Post (·.type ∈ modelErrorTypes) (fun _ => True) (parseParams n s ps) := by
  -- `simp only [*]` puts in what a branch knows of the brackets
  fun_induction parseParams n s ps
  · trivial
  · trivial
  · trivial
  · assumption
  -- a union of types in parentheses
  · simp only [*]; exact typed_err
  · simp only [*]; exact (types_typed _ _).of_error ‹_›
  · simp only [*]
  -- an option mark
  · exact typed_err
  · assumption
  -- subtypes in angle brackets
  · exact typed_err
  · exact typed_err
  · simp only [*]; exact typed_err
  · simp only [*]; rename_i ih; exact ih.of_error ‹_›
  · simp only [*]
  · exact typed_err

section
variable {inp : Input} {pe : Nat → PState → PM PNode} {B : Nat} (hpe : GoodPE inp pe B)
include hpe

theorem parsePairs_fine :
    ∀ n p, R inp p < n → R inp p ≤ B → Fine (·.2) inp (R inp p + 1) (parsePairs inp pe n p) :=
  fuel_ind fun n p ih hp => by
    unfold parsePairs
    refine (hpe 0 p hp).bind2 fun k p1 h1 => ?_
    refine (consume_fine inp .colon true (Nat.le_of_lt h1)).bind fun p2 h2 => ?_
    refine (hpe.keeps hp 0 h2).bind2 fun v p3 h3 => ?_
    exact Fine.more hp h3 h3 ih fun _ h => h

theorem parseBlockExprs_fine :
    ∀ n p, R inp p < n → R inp p ≤ B → Fine (·.2) inp (R inp p + 1) (parseBlockExprs inp pe n p) :=
  fuel_ind fun n p ih hp => by
    unfold parseBlockExprs
    split
    · exact Nat.lt_succ_self _
    · refine (hpe 0 p hp).bind2 fun e p1 h1 => ?_
      exact Fine.more hp h1 h1 ih fun _ h => h

theorem parseSortTerms_fine :
    ∀ n p, R inp p < n → R inp p ≤ B → Fine (·.2) inp (R inp p + 1) (parseSortTerms inp pe n p) :=
  fuel_ind fun n p ih hp => by
    unfold parseSortTerms
    refine Fine.bind2 (b := R inp p + 1) ?_ fun dir p1 h1 => ?_
    · split
      · exact Fine.close (Nat.lt_succ_self _)
      · exact Fine.close (Nat.lt_succ_self _)
      · exact Nat.lt_succ_self _
    refine (hpe.keeps hp 0 h1).bind2 fun e p2 h2 => ?_
    exact Fine.more hp h2 h2 ih fun _ h => h

theorem parseArgs_fine :
    ∀ n p, R inp p < n → R inp p ≤ B → Fine (·.2.2) inp (R inp p + 1) (parseArgs inp pe n p) :=
  fuel_ind fun n p ih hp => by
    unfold parseArgs
    refine Fine.bind (st := (·.2.2)) (b := R inp p + 1) ?_ fun (arg, isPh, p1) h1 => ?_
    · split
      · exact (consume_fine inp .condition true (Nat.le_succ _)).bind fun _ h => h
      · exact (hpe 0 p hp).bind fun _ h => h
    exact Fine.more hp h1 h1 ih fun _ h => h

theorem parseParamNames_fine :
    ∀ n p, R inp p < n → ∀ tk used, R inp p ≤ B →
      Fine (·.2) inp (R inp p + 1) (parseParamNames inp pe n tk used p) :=
  fuel_ind fun n p ih tk used hp => by
    unfold parseParamNames
    refine (hpe 0 p hp).bind2 fun arg p1 h1 => ?_
    simp only []
    split
    · split
      · exact typed_err
      · exact Fine.more hp h1 h1 (fun q h hB => ih q h _ _ hB) fun _ h => h
    · exact typed_err

theorem nud_fine (t : Token) (p : PState) (hp : R inp p ≤ B) : Fine (·.2) inp (R inp p + 1) (nud inp pe t p) := by
  have ok0 : ∀ x : PNode, Fine (·.2) inp (R inp p + 1) (.ok (x, p)) := fun _ => Nat.lt_succ_self _
  -- one goal for each leaf of the definition, in its order, and the bullets follow it (so too in `led_fine`,
  -- `parseParams_typed`); `any_goals` closes the leaves that return `(x, p)` unread: constants, names, wildcards
  fun_cases nud inp pe t p
  any_goals with_reducible exact ok0 _
  · -- a string with an illegal escape; a number out of range, not a number; an empty regular expression
    refine typed_err ?_
    split <;> simp [modelErrorTypes, tokErr]
  · exact typed_err
  · exact typed_err
  · exact typed_err
  · -- array: an item is an expression or a range of two
    exact Fine.close (Nat.lt_succ_self _)
  · refine (parseList_fine inp _ B (fun q hq => ?_) _ p (R_le inp p) hp).bind2 fun _ p1 h1 =>
      Fine.close h1
    refine (hpe 0 q hq).bind2 fun x q1 h1 => ?_
    simp only []
    split
    · refine (consume_fine inp .range true (Nat.le_of_lt h1)).bind fun q2 h2 => ?_
      exact (hpe.keeps hq 0 h2).bind fun _ h => h
    · exact h1
  · -- object
    exact Fine.close (Nat.lt_succ_self _)
  · exact (parsePairs_fine hpe _ p (R_le inp p) hp).bind2 fun _ p1 h1 => Fine.close h1
  · -- block
    exact (parseBlockExprs_fine hpe _ p (R_le inp p) hp).bind2 fun _ p1 h1 => Fine.close h1
  · -- negation
    exact (hpe _ p hp).bind fun _ h => h
  · -- transform
    refine (hpe 0 p hp).bind2 fun pat p1 h1 => ?_
    refine (consume_fine inp .pipe true (Nat.le_of_lt h1)).bind fun p2 h2 => ?_
    refine (hpe.keeps hp 0 h2).bind2 fun upd p3 h3 => ?_
    simp only []
    split
    · refine (consume_fine inp .comma true (Nat.le_of_lt h3)).bind fun p4 h4 => ?_
      refine (hpe.keeps hp 0 h4).bind2 fun del p5 h5 => ?_
      exact Fine.close h5
    · exact Fine.close h3
  · exact typed_err

theorem led_fine (t : Token) (lhs : PNode) (p : PState) (hp : R inp p ≤ B) : Fine (·.2) inp (R inp p + 1) (led inp pe t lhs p) := by
  have bin : ∀ (k : Nat) (mk : PNode → PNode), Fine (·.2) inp (R inp p + 1) (do let (rhs, p1) ← pe k p; .ok (mk rhs, p1)) :=
    fun k _ => (hpe k p hp).bind fun _ h => h
  fun_cases led inp pe t lhs p
  -- the operators that only read a right-hand side
  any_goals with_reducible exact bin _ _
  · -- ( after `function`: a lambda definition; first the parameter names
    refine Fine.bind2 (b := R inp p + 1) ?_ fun names p1 h1 => ?_
    · split
      · exact Nat.lt_succ_self _
      · exact parseParamNames_fine hpe _ p (R_le inp p) _ _ hp
    refine (consume_fine inp .parenClose false (Nat.le_of_lt h1)).bind fun p2 h2 => ?_
    -- the signature is collected as text and parsed without touching the token stream
    refine Fine.bind2 (b := R inp p + 1) ?_ fun sig p3 h3 => ?_
    · split
      · exact h2
      · exact ((sigLoop_fine inp _ p2 (R_le inp p2) _ _).mono h2).bind2 fun _ q hq => Fine.close hq
    refine Fine.bind (st := fun _ => p3) (b := R inp p + 1) ?_ fun params _ => ?_
    · cases sig with
      | none => exact h3
      | some sg =>
        simp only []
        split
        · exact (parseParams_typed _ _ _).of_error ‹_›
        · split
          · exact typed_err
          · exact h3
    refine (consume_fine inp .braceOpen true (Nat.le_of_lt h3)).bind fun p4 h4 => ?_
    refine (hpe.keeps hp 0 h4).bind2 fun body p5 h5 => ?_
    exact Fine.close h5
  · -- ( : a call or a partial application
    exact Fine.close (Nat.lt_succ_self _)
  · exact (parseArgs_fine hpe _ p (R_le inp p) hp).bind fun (_, _, p1) h1 => Fine.close h1
  · -- [ : predicate
    exact Fine.close (Nat.lt_succ_self _)
  · exact (hpe 0 p hp).bind2 fun _ p1 h1 => Fine.close h1
  · -- { : grouping
    exact Fine.close (Nat.lt_succ_self _)
  · exact (parsePairs_fine hpe _ p (R_le inp p) hp).bind2 fun _ p1 h1 => Fine.close h1
  · -- ? :
    refine (hpe 0 p hp).bind2 fun thn p1 h1 => ?_
    simp only []
    split
    · refine (consume_fine inp .colon true (Nat.le_of_lt h1)).bind fun p2 h2 => ?_
      exact (hpe.keeps hp 0 h2).bind fun _ h => h
    · exact h1
  · -- := not after a variable
    exact typed_err
  · -- order-by
    refine (consume_fine inp .parenOpen true (Nat.le_succ _)).bind fun p1 h1 => ?_
    refine ((parseSortTerms_fine hpe _ p1 (R_le inp p1) (by omega)).mono h1).bind2 fun _ p2 h2 => ?_
    exact Fine.close h2
  · -- not an infix operator
    exact typed_err

omit hpe in
theorem bp_eof : bp .eof = 0 := by decide

theorem ledLoop_fine :
    ∀ n p, R inp p < n → ∀ rbp lhs, R inp p ≤ B → Fine (·.2) inp (R inp p + 1) (ledLoop inp pe n rbp lhs p) :=
  fuel_ind fun n p ih rbp lhs hp => by
    unfold ledLoop
    split
    · rename_i hcond
      have hne : p.tok.type ≠ .eof := fun he => by rw [he, bp_eof] at hcond; exact Nat.not_lt_zero _ hcond
      refine ((advance_fine inp true p).2 hne).bind fun p1 h1 => ?_
      refine (led_fine hpe p.tok lhs p1 (by omega)).bind2 fun lhs' p2 h2 => ?_
      exact (ih p2 (by omega) rbp lhs' (by omega)).mono (by omega)
    · exact Nat.lt_succ_self _

end

/-- **The parser's recursion budget suffices.**  `parseExpr` with more fuel than there are tokens left never
    fails for lack of fuel (neither itself nor any of the list loops it runs), and never gives tokens back. -/
theorem parseExpr_fine (inp : Input) :
    ∀ fuel p, R inp p < fuel → ∀ rbp, Fine (·.2) inp (R inp p + 1) (parseExpr inp fuel rbp p) :=
  fuel_ind fun fuel p ih rbp => by
    unfold parseExpr
    by_cases heof : (p.tok.type == .eof) = true
    · simp only [heof, if_true]
      exact typed_err
    · simp only [heof, Bool.false_eq_true, if_false]
      have hne : p.tok.type ≠ .eof := by simpa using heof
      refine ((advance_fine inp _ p).2 hne).bind fun p1 h1 => ?_
      have hgood : GoodPE inp (parseExpr inp fuel) (R inp p1) := fun rbp' q hq => ih q (by omega) rbp'
      refine (nud_fine hgood p.tok p1 (Nat.le_refl _)).bind2 fun lhs p2 h2 => ?_
      exact (ledLoop_fine hgood _ p2 (R_le inp p2) rbp lhs (by omega)).mono (by omega)

/-- **Compile's parsing phase never runs out of its recursion budget**: with the budget `parse` uses
    (2·|input| + 8), for every input (valid UTF-8 or not) the token-level parser returns a tree or one of
    jparse's error kinds — never the model's `fuel` error.  Together with `lexAll_terminates` this is the
    termination half of "Compile is total" for the modelled lexer and Pratt parser (the optimiser that follows
    is structurally recursive on the tree). -/
theorem parse_never_out_of_fuel (inp : Input) (p0 : PState) (h0 : advance inp true { lex := initState, tok := default } = .ok p0) :
    ∀ e, parseExpr inp (2 * inp.size + 8) 0 p0 = .error e → e.type ≠ "fuel" := by
  intro e he
  exact typed_not_fuel ((parseExpr_fine inp _ p0 (by have := R_le inp p0; omega) 0).of_error he)

/-! ### end to end: parse never reports its own budget error -/

def OptErr (e : PErr) : Prop := e.type = "ErrGroupGroup" ∨ e.type = "ErrPathLiteral" ∨ e.type = "ErrGroupPredicate"

theorem optErr_typed (e : PErr) (h : OptErr e) : e.type ∈ modelErrorTypes := by
  rcases h with h | h | h <;> (rw [h]; simp [modelErrorTypes])

def OptOk {α : Type} : Except PErr α → Prop := Post OptErr fun _ => True

theorem OptOk.bind {α β : Type} {m : Except PErr α} {f : α → Except PErr β} (hm : OptOk m) (hf : ∀ x, OptOk (f x)) :
    OptOk (m >>= f) :=
  Post.bind hm fun x _ => hf x

mutual
theorem optimize_ok : ∀ n : PNode, OptOk (optimize n)
  | .str _ | .num _ | .bool _ | .null | .regex _ | .var _ | .name _ | .wildcard | .descendent | .placeholder => by
    unfold optimize; trivial
  | .neg r | .singleton r | .lambda _ _ r => by
    unfold optimize
    refine (optimize_ok r).bind fun _ => ?_
    split <;> trivial
  | .range l r | .numop _ l r | .cmpop _ l r | .boolop _ l r | .concat l r | .apply l r => by
    unfold optimize
    exact (optimize_ok l).bind fun _ => (optimize_ok r).bind fun _ => trivial
  | .array l | .block l => by
    unfold optimize
    exact (optimizeL_ok l).bind fun _ => trivial
  | .object l => by
    unfold optimize
    exact (optimizeP_ok l).bind fun _ => trivial
  | .transform a b o | .cond a b o => by
    unfold optimize
    refine (optimize_ok a).bind fun _ => (optimize_ok b).bind fun _ => ?_
    cases o with
    | none => trivial
    | some c => exact (optimize_ok c).bind fun _ => trivial
  | .partial_ f args | .call f args => by
    unfold optimize
    exact (optimize_ok f).bind fun _ => (optimizeL_ok args).bind fun _ => trivial
  | .group e pairs => by
    unfold optimize
    refine (optimize_ok e).bind fun _ => ?_
    split
    · exact Or.inl rfl
    · exact (optimizeP_ok pairs).bind fun _ => trivial
  | .assign _ v => by
    unfold optimize
    exact (optimize_ok v).bind fun _ => trivial
  | .sort e terms => by
    unfold optimize
    exact (optimize_ok e).bind fun _ => (optimizeT_ok terms).bind fun _ => trivial
  | .dot l r => by
    unfold optimize
    simp only []
    refine (optimize_ok l).bind fun l' => ?_
    split
    · exact Or.inr (Or.inl rfl)
    · refine (optimize_ok r).bind fun r' => ?_
      split
      · exact Or.inr (Or.inl rfl)
      · split <;> trivial
  | .predRaw l r => by
    unfold optimize
    refine (optimize_ok l).bind fun _ => (optimize_ok r).bind fun _ => ?_
    split
    · exact Or.inr (Or.inr rfl)
    · split
      · trivial
      · split <;> trivial
    · trivial
theorem optimizeL_ok : ∀ l : List PNode, OptOk (optimizeL l)
  | [] => by unfold optimizeL; trivial
  | x :: xs => by
    unfold optimizeL
    exact (optimize_ok x).bind fun _ => (optimizeL_ok xs).bind fun _ => trivial
theorem optimizeP_ok : ∀ l : List (PNode × PNode), OptOk (optimizeP l)
  | [] => by unfold optimizeP; trivial
  | (k, v) :: rest => by
    unfold optimizeP
    exact (optimize_ok k).bind fun _ => (optimize_ok v).bind fun _ => (optimizeP_ok rest).bind fun _ => trivial
theorem optimizeT_ok : ∀ l : List (SortDir × PNode), OptOk (optimizeT l)
  | [] => by unfold optimizeT; trivial
  | (_, x) :: rest => by
    unfold optimizeT
    exact (optimize_ok x).bind fun _ => (optimizeT_ok rest).bind fun _ => trivial
end

theorem optimize_err : ∀ (n : PNode) (e : PErr), optimize n = .error e → OptErr e :=
  fun n _ h => (optimize_ok n).of_error h
theorem optimizeL_err : ∀ (l : List PNode) (e : PErr), optimizeL l = .error e → OptErr e :=
  fun l _ h => (optimizeL_ok l).of_error h
theorem optimizeP_err : ∀ (l : List (PNode × PNode)) (e : PErr), optimizeP l = .error e → OptErr e :=
  fun l _ h => (optimizeP_ok l).of_error h
theorem optimizeT_err : ∀ (l : List (SortDir × PNode)) (e : PErr), optimizeT l = .error e → OptErr e :=
  fun l _ h => (optimizeT_ok l).of_error h

/-- **Every error of Compile's model is one of jparse's error types**: whatever the bytes, `parse` returns a tree
    or an error whose type is in `modelErrorTypes` — from the lexer, the Pratt parser with all its loops, the
    signature parser, or the optimiser. -/
theorem parse_error_typed (inp : Input) (e : PErr) (h : parse inp = .error e) : e.type ∈ modelErrorTypes := by
  have key : Post (·.type ∈ modelErrorTypes) (fun _ => True) (parse inp) := by
    unfold parse
    refine Post.bind (advance_fine inp true _).1 fun p0 _ => ?_
    refine Post.bind (parseExpr_fine inp _ p0 (by have := R_le inp p0; omega) 0) fun (node, p) _ => ?_
    simp only []
    split
    · show "ErrSyntaxError" ∈ modelErrorTypes
      simp [modelErrorTypes]
    · cases ho : optimize node with
      | error e' => exact optErr_typed e' (optimize_err node e' ho)
      | ok _ => trivial
  exact key.of_error h

/-- **Compile's model is total and never gives up**: for every input — any bytes at all — `parse` returns a
    tree or an error whose kind is one of jparse's; the model's internal `fuel` error cannot occur.  (Lexing,
    the Pratt parser with all its loops, and the optimiser; `parse` itself is a total Lean function.) -/
theorem parse_never_fuel (inp : Input) (e : PErr) (h : parse inp = .error e) : e.type ≠ "fuel" :=
  typed_not_fuel (parse_error_typed inp e h)

/-! ### signatures and escapes: worked cases of F7 and F15; a bracketed part lies inside its string -/

/-- an unbalanced bracket is reported, not sliced past (the F7 defect) -/
theorem unbalanced_signature_is_error :
    parseParams 10 "(".toList [] = .error { type := "ErrInvalidUnionType", hint := "(" } ∧
    (parseParams 10 "a<".toList []).isOk = false ∧
    (parseParams 10 "a<n>".toList []).isOk = true := by
  refine ⟨by rfl, by rfl, by rfl⟩

theorem getBracketed_go_length (o c : Char) (ds : List Char) (depth : Nat) (acc out : List Char)
    (h : getBracketed.go o c ds depth acc = some out) : out.length + 1 ≤ acc.length + ds.length := by
  -- every recursive call moves one character from `ds` to `acc`
  fun_induction getBracketed.go o c ds depth acc
  · cases h
  · rename_i ih
    have := ih h
    simp only [List.length_cons] at this ⊢
    omega
  · cases h
    simp only [List.length_reverse, List.length_cons]
    omega
  · rename_i ih
    have := ih h
    simp only [List.length_cons] at this ⊢
    omega
  · rename_i ih
    have := ih h
    simp only [List.length_cons] at this ⊢
    omega

/-- the bracketed part never extends past the string -/
theorem getBracketed_length (s : List Char) (o c : Char) (part : List Char)
    (h : getBracketed s o c = some part) : part.length + 2 ≤ s.length := by
  unfold getBracketed at h
  cases s with
  | nil => simp at h
  | cons x rest =>
    simp only [] at h
    split at h
    · simp at h
    · have := getBracketed_go_length o c rest 1 [] part h
      simp at this ⊢
      omega

/-- `\u+041` is an illegal escape (the F15 defect), `\u0041` is "A" -/
theorem unescape_hex_strict :
    unescape 20 "\\u+041".toList = .error "u+041" ∧
    unescape 20 "\\u0041".toList = .ok ['A'] ∧
    unescape 20 "\\ud83d\\ude00".toList = .ok ['😀'] ∧
    unescape 20 "\\ud83d".toList = .error "ud83d" ∧
    unescape 20 "\\q".toList = .error "q" := by
  refine ⟨by rfl, by rfl, by rfl, by rfl, by rfl⟩

end Jsonata.Props.C08
