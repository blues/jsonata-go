/-
  Props/C03.lean — property C03: operators compute their defined results;
  missing / wrong-typed operands are handled as the statement says.
  Every statement is for all operand values.
-/
import JsonataModel.Model.Interp
import JsonataModel.Lemmas.Monad
import JsonataModel.Spec.Ops
import JsonataModel.Generated.Facts

namespace Jsonata.Props.C03
open Jsonata Jsonata.Spec NumSys

variable {N : Type} [NumSys N]

theorem numeric_compute (op : NumOp) (a b : N) :
    numericOp op (some (.num a)) (some (.num b)) = arithResult op a b := by
  cases op <;> rfl

/-- The whole operator × kind × kind table of the arithmetic operators. -/
theorem numeric_table (op : NumOp) (l r : Option (Val N)) :
    match arithClass (kindOf l) (kindOf r) with
    | .compute => ∃ a b, l = some (.num a) ∧ r = some (.num b) ∧ numericOp op l r = arithResult op a b
    | .noValue => numericOp op l r = .ok none
    | .err k => numericOp op l r = .error (.eval k)
    | .constFalse => False := by
  -- a left operand that is neither a number nor missing decides its whole row
  -- (`exact rfl`: the `rfl` tactic tries `apply_rfl` first, which costs half as much again before it fails)
  rcases l with _ | l
  · rcases r with _ | r
    · exact rfl
    · cases r <;> exact rfl
  · cases l with
    | num a =>
      rcases r with _ | r
      · exact rfl
      · cases r with
        | num b => exact ⟨a, b, rfl, rfl, numeric_compute op a b⟩
        | _ => exact rfl
    | _ => exact rfl

theorem numeric_value_is_finite (op : NumOp) (l r : Option (Val N)) (v : Val N)
    (h : numericOp op l r = .ok (some v)) :
    ∃ x, v = .num x ∧ isInf x = false ∧ isNaN x = false := by
  -- only the row of two numbers yields a value, and only past the two tests
  unfold numericOp at h
  split at h
  · dsimp only at h
    split at h
    · cases h
    split at h
    · cases h
    cases h
    exact ⟨_, rfl, by simpa using ‹¬ isInf _ = true›, by simpa using ‹¬ isNaN _ = true›⟩
  all_goals cases h

/-- Unary minus: negation of a number, no value for a missing operand, an error otherwise. -/
theorem negation_table (v : Option (Val N)) :
    match kindOf v with
    | .num => ∃ a, v = some (.num a) ∧ negateOp v = .ok (some (.num (neg a)))
    | .missing => negateOp v = .ok none
    | _ => negateOp v = .error (.eval .nonNumberRHS) := by
  rcases v with _ | v
  · exact rfl
  · cases v with
    | num a => exact ⟨a, rfl, rfl⟩
    | _ => exact rfl

/-- the model's `needComparable` as the statements read it (`isOrdering_eq`) -/
def isOrdering : CmpOp → Bool
  | .lt | .le | .gt | .ge => true
  | _ => false

theorem isOrdering_eq (op : CmpOp) : isOrdering op = needComparable op := by cases op <;> rfl

/-- The operator × kind × kind table of `< <= > >=`. -/
theorem ordering_table (op : CmpOp) (hop : isOrdering op = true) (l r : Option (Val N)) :
    match orderClass (kindOf l) (kindOf r) with
    | .compute => ∃ b, comparisonOp op l r = .ok (some (.bool b))
    | .constFalse => comparisonOp op l r = .ok (some (.bool false))
    | .err k => comparisonOp op l r = .error (.eval k)
    | .noValue => False := by
  -- the operator matters only through `needComparable`; a left operand that is not a number,
  -- a string or missing decides its whole row
  rw [isOrdering_eq] at hop
  simp only [comparisonOp, hop, ↓reduceIte]
  rcases l with _ | l
  · rcases r with _ | r
    · exact rfl
    · cases r <;> exact rfl
  · cases l with
    | num a =>
      rcases r with _ | r
      · exact rfl
      · cases r with
        | num b => exact ⟨_, rfl⟩
        | _ => exact rfl
    | str s =>
      rcases r with _ | r
      · exact rfl
      · cases r with
        | str t => exact ⟨_, rfl⟩
        | _ => exact rfl
    | _ => exact rfl

/-- Two numbers are ordered numerically, two strings by code point (`String`'s order). -/
theorem ordering_numbers (a b : N) :
    comparisonOp .lt (some (.num a)) (some (.num b)) = .ok (some (.bool (lt a b))) ∧
    comparisonOp .ge (some (.num a)) (some (.num b)) = .ok (some (.bool (!lt a b))) ∧
    comparisonOp .le (some (.num a)) (some (.num b)) = .ok (some (.bool (lt a b || beq a b))) ∧
    comparisonOp .gt (some (.num a)) (some (.num b)) = .ok (some (.bool (!(lt a b || beq a b)))) := by
  simp [comparisonOp, needComparable, isNumOrStr, Val.isNum, valLt, valEq]

theorem ordering_strings (a b : String) :
    comparisonOp (N := N) .lt (some (.str a)) (some (.str b)) = .ok (some (.bool (decide (a < b)))) ∧
    comparisonOp (N := N) .le (some (.str a)) (some (.str b)) = .ok (some (.bool (decide (a < b) || a == b))) := by
  simp [comparisonOp, needComparable, isNumOrStr, Val.isNum, valLt, valEq]

theorem valIn_eq_memberOf (a b : Val N) : valIn a b = memberOf a b := by
  cases b <;> simp [valIn, memberOf, arrayify]

/-- `= != in` are not gated: the comparison when both operands are there, false otherwise.
    (The hypothesis stands after the colon so that the `match` on `op` does not abstract it.) -/
theorem comparisonOp_equality (op : CmpOp) (l r : Option (Val N)) : needComparable op = false →
    comparisonOp op l r = .ok (some (.bool (match l, r with
      | some a, some b => (match op with
          | .in_ => memberOf a b
          | .ne => !valEq a b
          | _ => valEq a b)
      | _, _ => false))) := by
  intro hop
  simp only [comparisonOp, hop, Bool.false_eq_true, ↓reduceIte, ← valIn_eq_memberOf]
  rcases l with _ | a
  · rfl
  rcases r with _ | b
  · rfl
  · cases op with
    | eq | ne | in_ => rfl
    | _ => cases hop

theorem equalityClass_eq (k k' : Kind) :
    equalityClass k k' = if k = .missing ∨ k' = .missing then .constFalse else .compute := by
  cases k <;> cases k' <;> rfl

omit [NumSys N] in
theorem kindOf_eq_missing (v : Option (Val N)) : kindOf v = .missing ↔ v = none := by
  rcases v with _ | v
  · simp [kindOf]
  · cases v <;> simp [kindOf]

/-- `= != in` never fail; a missing operand makes them false. -/
theorem equality_table (op : CmpOp) (hop : isOrdering op = false) (l r : Option (Val N)) :
    match equalityClass (kindOf l) (kindOf r) with
    | .constFalse => comparisonOp op l r = .ok (some (.bool false))
    | _ => ∃ a b, l = some a ∧ r = some b ∧
        comparisonOp op l r = .ok (some (.bool (match op with
          | .in_ => memberOf a b
          | .ne => !valEq a b
          | _ => valEq a b))) := by
  rw [comparisonOp_equality op l r (isOrdering_eq op ▸ hop), equalityClass_eq]
  simp only [kindOf_eq_missing]
  rcases l with _ | a
  · rw [if_pos (Or.inl rfl)]
  rcases r with _ | b
  · rw [if_pos (Or.inr rfl)]
  · rw [if_neg (by simp)]
    -- the two `match`es on `op` differ only in that the statement's abstracts `hop`
    refine ⟨a, b, rfl, rfl, ?_⟩
    cases op with
    | eq | ne | in_ => rfl
    | _ => cases hop

/-- numbers, strings and booleans are compared by value -/
theorem eq_scalars (a b : N) (s t : String) (p q : Bool) :
    valEq (.num a) (.num b) = beq a b ∧ valEq (N := N) (.str s) (.str t) = (s == t) ∧
    valEq (N := N) (.bool p) (.bool q) = (p == q) ∧ valEq (N := N) .null .null = true ∧
    valEq (.num a) (.str s) = false ∧ valEq (N := N) (.str s) (.bool p) = false := by
  simp [valEq]

/-- arrays are compared member by member, in order -/
theorem eq_arrays (x y : Val N) (xs ys : List (Val N)) :
    valEq (.arr (x :: xs)) (.arr (y :: ys)) = (valEq x y && valEq (.arr xs) (.arr ys)) ∧
    valEq (N := N) (.arr []) (.arr []) = true ∧
    valEq (.arr (x :: xs)) (.arr []) = false ∧ valEq (.arr []) (.arr (y :: ys)) = false := by
  simp [valEq, listEq]

theorem boolean_ops (l r : Option (Val N)) :
    booleanOp .and_ l r = .bool (truthyO l && truthyO r) ∧
    booleanOp .or_ l r = .bool (truthyO l || truthyO r) := by
  simp [booleanOp]

/-- the boolean cast of each kind -/
theorem boolean_cast (b : Bool) (s : String) (x : N) (kvs : List (String × Val N)) :
    truthy (N := N) (.bool b) = b ∧ truthy (N := N) (.str s) = (s != "") ∧
    truthy (.num x) = !(beq x (ofInt 0)) ∧ truthy (N := N) .null = false ∧
    truthy (N := N) (.arr []) = false ∧ truthy (.obj kvs) = !kvs.isEmpty ∧
    truthyO (N := N) none = false ∧ truthy (N := N) (.builtin "sum") = false := by
  simp [truthy, truthyAny, truthyO]

theorem boolean_cast_array (x : Val N) (xs : List (Val N)) :
    truthy (.arr (x :: xs)) = (truthy x || truthy (.arr xs)) := by
  simp [truthy, truthyAny]

/-- `&` treats a missing operand as the empty string and a string as itself -/
theorem concat_operands (s : String) :
    stringifyO (N := N) none = .ok "" ∧ stringifyO (N := N) (some (.str s)) = .ok s ∧
    stringifyO (N := N) (some (.builtin "sum")) = .ok "" := by
  simp [stringifyO, stringOf, Val.isFn]

/-- the bound advances with the counter: after `k` members it stands at `lo + k` -/
theorem rangeList_eq (lo : Int) (k n : Nat) :
    rangeList (N := N) (lo + k) n = (List.range' k n).map fun i => .num (ofInt (lo + i)) := by
  induction n generalizing k with
  | zero => rfl
  | succ m ih =>
    simp only [rangeList, List.range'_succ, List.map_cons, ← ih, Int.natCast_succ, Int.add_assoc]

theorem rangeList_length (lo : Int) (n : Nat) : (rangeList (N := N) lo n).length = n := by
  rw [← Int.add_zero lo, ← Int.natCast_zero, rangeList_eq, List.length_map, List.length_range']

/-- its i-th member is lo + i (`rangeOp` does not use `rangeList` but `rangeFrom`, below) -/
theorem rangeList_get (lo : Int) (n i : Nat) (h : i < n) :
    (rangeList (N := N) lo n)[i]? = some (.num (ofInt (lo + i))) := by
  rw [← Int.add_zero lo, ← Int.natCast_zero, rangeList_eq, List.getElem?_map, List.getElem?_range' h]
  simp

theorem rangeFromAux_eq (a : N) (k n : Nat) :
    rangeFromAux a k n = (List.range' k n).map fun i => .num (add a (ofInt i)) := by
  induction n generalizing k with
  | zero => rfl
  | succ m ih => simp only [rangeFromAux, ih, List.range'_succ, List.map_cons]

/-- the members of a range: the i-th member is the lower bound plus i -/
theorem rangeFrom_get (a : N) (n i : Nat) (h : i < n) :
    (rangeFrom a n)[i]? = some (.num (add a (ofInt (i : Int)))) := by
  simp only [rangeFrom, rangeFromAux_eq, List.getElem?_map, List.getElem?_range' h, Option.map_some,
    Nat.zero_add, Nat.one_mul]

theorem rangeFrom_length (a : N) (n : Nat) : (rangeFrom a n).length = n := by
  simp only [rangeFrom, rangeFromAux_eq, List.length_map, List.length_range']

/-- `[a..b]` for integers a ≤ b: the integers from a to b; none when a > b; errors for
    non-integer bounds and for more than `maxRangeItems` items. -/
theorem range_numbers (a b : N) :
    rangeOp (some (.num a)) (some (.num b)) =
      if !isIntegerN a then .error (.eval .nonIntegerLHS)
      else if !isIntegerN b then .error (.eval .nonIntegerRHS)
      else if lt b a then .ok none
      else if toInt (sub b a) + 1 < 0 || toInt (sub b a) + 1 > (maxRangeItems : Int)
        then .error (.eval .maxRangeItems)
      else .ok (some (.arr (rangeFrom a (toInt (sub b a) + 1).toNat))) := by
  unfold rangeOp
  by_cases ha : isIntegerN a = true <;> by_cases hb : isIntegerN b = true <;> simp [ha, hb]

/-- a missing bound makes the range empty ('no value') unless the other bound is invalid -/
theorem range_missing (b : N) (hb : isIntegerN b = true) :
    rangeOp (N := N) none (some (.num b)) = .ok none ∧
    rangeOp (some (.num b)) (none : Option (Val N)) = .ok none ∧
    rangeOp (N := N) none none = .ok none := by
  simp [rangeOp, hb]

/-- a bound that is not a number is an error, never a value -/
theorem range_wrong_type (v : Val N) (hv : v.isNum = false) (r : Option (Val N)) :
    rangeOp (some v) r = .error (.eval .nonIntegerLHS) := by
  cases v <;> simp_all [rangeOp, Val.isNum]

/-! ### the conditional is lazy -/

theorem evalNode_cond (r : Rec N) (c t : Node N) (e : Option (Node N)) (d : Option (Val N)) (env : Nat) :
    evalNode r (.cond c t e) d env = r.ev c d env >>= fun cv =>
      if truthyO cv then r.ev t d env else match e with
        | some en => r.ev en d env
        | none => pure none := rfl

/-- When the condition is truthy the result is the then-branch evaluated in the state the
    condition left; the else-branch is not consulted at all (any two else-branches give the
    same outcome *and* the same state). -/
theorem cond_true_ignores_else (r : Rec N) (c t : Node N) (e e' : Option (Node N))
    (d : Option (Val N)) (env : Nat) (s s' : Store N) (cv : Option (Val N))
    (hc : (r.ev c d env).run s = .ok (cv, s')) (ht : truthyO cv = true) :
    (evalNode r (.cond c t e) d env).run s = (r.ev t d env).run s' ∧
    (evalNode r (.cond c t e) d env).run s = (evalNode r (.cond c t e') d env).run s := by
  simp only [StateT.run] at hc ⊢
  simp only [evalNode_cond, evalM_bind, hc, ht, if_true, and_self]

theorem cond_false_ignores_then (r : Rec N) (c t t' : Node N) (e : Node N)
    (d : Option (Val N)) (env : Nat) (s s' : Store N) (cv : Option (Val N))
    (hc : (r.ev c d env).run s = .ok (cv, s')) (ht : truthyO cv = false) :
    (evalNode r (.cond c t (some e)) d env).run s = (r.ev e d env).run s' ∧
    (evalNode r (.cond c t (some e)) d env).run s = (evalNode r (.cond c t' (some e)) d env).run s := by
  simp only [StateT.run] at hc ⊢
  simp only [evalNode_cond, evalM_bind, hc, ht, Bool.false_eq_true, if_false, and_self]

/-- an error in the condition is the outcome -/
theorem cond_error (r : Rec N) (c t : Node N) (e : Option (Node N))
    (d : Option (Val N)) (env : Nat) (s : Store N) (err : Err)
    (hc : (r.ev c d env).run s = .error err) :
    (evalNode r (.cond c t e) d env).run s = .error err := by
  simp only [StateT.run] at hc ⊢
  rw [evalNode_cond, evalM_bind, hc]

/-! ### regenerated facts (the tie to /repo's source) -/

theorem fact_maxRangeItems : Generated.maxRangeItems = maxRangeItems := by decide +kernel

/-- the bound is checked in one place, on the size of the range itself (rhs − lhs + 1), with the
    overflow guard — not, for instance, on the length of an array under construction -/
theorem fact_range_guard :
    Generated.rangeGuards = ["size < 0 || size > maxRangeItems | size := int(hi-lo) + 1"] := by decide +kernel

def allEvalErrKinds : List EvalErrKind :=
  [.nonIntegerLHS, .nonIntegerRHS, .nonNumberLHS, .nonNumberRHS, .nonComparableLHS,
   .nonComparableRHS, .typeMismatch, .nonCallable, .nonCallableApply, .nonCallablePartial,
   .numberInf, .numberNaN, .maxRangeItems, .illegalKey, .duplicateKey, .clone, .illegalUpdate,
   .illegalDelete, .nonSortable, .sortMismatch]

/-- the evaluator's error enum in error.go is exactly the model's, in the same order -/
theorem fact_evalErrKinds : Generated.evalErrNames = allEvalErrKinds.map EvalErrKind.name := by decide +kernel

/-! ### the premises are satisfiable (non-vacuity), on the exact instance `Int` -/

example : numericOp (N := Int) .add (some (.num 2)) (some (.num 3)) = .ok (some (.num 5)) := by rfl
example : numericOp (N := Int) .mod (some (.num (-7))) (some (.num 2)) = .ok (some (.num (-1))) := by rfl
example : numericOp (N := Int) .add (some (.str "a")) (some (.num 3)) = .error (.eval .nonNumberLHS) := by rfl
example : numericOp (N := Int) .add none (some (.str "a")) = .error (.eval .nonNumberRHS) := by rfl
example : comparisonOp (N := Int) .lt (some (.num 1)) (some (.str "a")) = .error (.eval .typeMismatch) := by rfl
example : comparisonOp (N := Int) .in_ (some (.num 2)) (some (.arr [.num 1, .num 2])) = .ok (some (.bool true)) := by
  simp [comparisonOp, needComparable, valIn, arrayify, valEq, NumSys.beq]
example : rangeOp (N := Int) (some (.num 2)) (some (.num 4)) = .ok (some (.arr [.num 2, .num 3, .num 4])) := by rfl
example : rangeOp (N := Int) (some (.num 4)) (some (.num 2)) = .ok none := by rfl
example : rangeOp (N := Int) (some (.num 0)) (some (.num 10000000)) = .error (.eval .maxRangeItems) := by rfl

end Jsonata.Props.C03
