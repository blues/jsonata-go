/-
  Props/C05.lean — property C05: evaluation is repeatable and leaves the compiled
  expression unchanged.

  In the model an evaluation is a function of (tree, input, fuel): the tree is a value that
  no evaluation can write to, built-ins carry no per-call state, and every evaluation starts
  from a fresh store.  What ties this to the source is the regenerated *write set*: every
  statement of the evaluator packages that writes through a field or an element must be on
  the list below, where each is accounted for as local to the evaluation (or, for the two
  setters, as applied to a per-call copy).  A new write site anywhere breaks `fact_writes_accounted`.
-/
import JsonataModel.Model.Interp
import JsonataModel.Generated.Facts
import JsonataModel.Lemmas.Chars

namespace Jsonata.Props.C05
open Jsonata

variable {N : Type} [NumSys N]

/-- what outlives an evaluation and is seen by the next: in the model, the compiled expression alone -/
structure World (N : Type) where
  ast : Node N

/-- one `Expr.Eval`: fresh store (top frame binds `$` to the input), outcome, and the world after -/
def evalW (fuel : Nat) (w : World N) (input : Option (Val N)) :
    Except Err (Option (Val N)) × World N :=
  (evalTop fuel w.ast input, w)

def runHistory (fuel : Nat) (w : World N) : List (Option (Val N)) → List (Except Err (Option (Val N))) × World N
  | [] => ([], w)
  | d :: ds =>
    let (o, w1) := evalW fuel w d
    let (os, w2) := runHistory fuel w1 ds
    (o :: os, w2)

/-- **The expression is the same after any evaluation as before it.** -/
theorem ast_unchanged (fuel : Nat) (w : World N) (input : Option (Val N)) :
    (evalW fuel w input).2 = w := rfl

theorem runHistory_eq (fuel : Nat) (w : World N) (ds : List (Option (Val N))) :
    runHistory fuel w ds = (ds.map (evalTop fuel w.ast), w) := by
  induction ds with
  | nil => rfl
  | cons d ds ih => simp only [runHistory, evalW, ih, List.map_cons]

/-- **The outcome for input d does not depend on what was evaluated before.** -/
theorem history_independent (fuel : Nat) (w : World N) (before : List (Option (Val N)))
    (d : Option (Val N)) :
    (runHistory fuel (runHistory fuel w before).2 [d]).1 = [evalTop fuel w.ast d] := by
  simp only [runHistory_eq, List.map]

/-- every evaluation starts from a fresh environment: only `$` is bound, to the input -/
theorem eval_fresh_env (fuel : Nat) (node : Node N) (input : Option (Val N)) :
    evalTop fuel node input =
      (match (eval fuel node input 0).run { frames := #[{ parent := none, syms := [("$", input)] }] } with
       | .ok (v, _) => .ok v
       | .error e => .error e) := rfl

/-- **Full strength over one expression**: the outcomes of any history are, position by position, what each
    input gives when evaluated alone on the untouched expression. -/
theorem history_pointwise (fuel : Nat) (w : World N) (ds : List (Option (Val N))) :
    (runHistory fuel w ds).1 = ds.map (evalTop fuel w.ast) := by
  rw [runHistory_eq]

/-- equal inputs at any two positions of any history give equal outcomes -/
theorem history_equal_inputs (fuel : Nat) (w : World N) (ds : List (Option (Val N))) (i j : Nat)
    (hi : i < ds.length) (hj : j < ds.length) (h : ds[i] = ds[j]) :
    (runHistory fuel w ds).1[i]? = (runHistory fuel w ds).1[j]? := by
  simp only [runHistory_eq, List.getElem?_map, List.getElem?_eq_getElem hi, List.getElem?_eq_getElem hj, h]

/-- a history splits: what comes after a prefix is what it would be without the prefix -/
theorem history_append (fuel : Nat) (w : World N) (xs ys : List (Option (Val N))) :
    (runHistory fuel w (xs ++ ys)).1 = (runHistory fuel w xs).1 ++ (runHistory fuel w ys).1 := by
  simp only [runHistory_eq, List.map_append]

/-- a process holds several compiled expressions; an operation evaluates one of them on an input -/
def runProcess (fuel : Nat) (ws : List (World N)) :
    List (Nat × Option (Val N)) → List (Option (Except Err (Option (Val N)))) × List (World N)
  | [] => ([], ws)
  | (k, d) :: ops =>
    match ws[k]? with
    | none =>
      let (os, ws2) := runProcess fuel ws ops
      (none :: os, ws2)
    | some w =>
      let (o, w1) := evalW fuel w d
      let (os, ws2) := runProcess fuel (ws.set k w1) ops
      (some o :: os, ws2)

theorem runProcess_eq (fuel : Nat) (ws : List (World N)) (ops : List (Nat × Option (Val N))) :
    runProcess fuel ws ops =
      (ops.map (fun op => (ws[op.1]?).map (fun w => evalTop fuel w.ast op.2)), ws) := by
  induction ops with
  | nil => rfl
  | cons op ops ih =>
    obtain ⟨k, d⟩ := op
    unfold runProcess
    cases hk : ws[k]? with
    | none => simp only [ih, List.map_cons, hk, Option.map_none]
    | some w =>
      obtain ⟨hlt, rfl⟩ := List.getElem?_eq_some_iff.mp hk
      simp only [evalW, List.set_getElem_self, ih, List.map_cons, hk, Option.map_some]

/-- no operation of a process changes any of its expressions -/
theorem process_worlds_unchanged (fuel : Nat) (ws : List (World N)) (ops : List (Nat × Option (Val N))) :
    (runProcess fuel ws ops).2 = ws := by
  rw [runProcess_eq]

/-- **Whatever any expression in the process has evaluated before**: each operation's outcome is what its
    expression gives for its input on its own, whatever was interleaved. -/
theorem process_pointwise (fuel : Nat) (ws : List (World N)) (ops : List (Nat × Option (Val N))) :
    (runProcess fuel ws ops).1 = ops.map (fun op => (ws[op.1]?).map (fun w => evalTop fuel w.ast op.2)) := by
  rw [runProcess_eq]

theorem filterMap_zip_map {α β : Type} (f : α → β) (q : α → Prop) [DecidablePred q] (l : List α) :
    ((l.map f).zip l).filterMap (fun p => if q p.2 then some p.1 else none) = (l.filter q).map f := by
  induction l with
  | nil => rfl
  | cons a l ih => by_cases h : q a <;> simp [h, ih]

/-- dropping the operations on other expressions from a process leaves the outcomes of expression `k` as they were -/
theorem process_other_expressions_irrelevant (fuel : Nat) (ws : List (World N)) (ops : List (Nat × Option (Val N)))
    (k : Nat) :
    ((runProcess fuel ws ops).1.zip ops).filterMap (fun p => if p.2.1 = k then some p.1 else none) =
    (runProcess fuel ws (ops.filter (·.1 = k))).1 := by
  simp only [runProcess_eq]
  exact filterMap_zip_map _ (·.1 = k) ops

example : (runProcess (N := Int) 50
    [{ ast := .numop .add (.num 1) (.path [.name "a"] false) }, { ast := .path [.name "a"] false }]
    [(0, some (.obj [("a", .num 2)])), (1, some (.obj [("a", .num 5)])), (0, some (.obj [("a", .num 2)])), (2, none)]).1 =
    [some (.ok (some (.num 3))), some (.ok (some (.num 5))), some (.ok (some (.num 3))), none] := by
  rfl

/-- Every write through a field, element or pointer in the evaluator packages is accounted for by the *kind* of
    what it writes to (the extractor classifies the variable a store is rooted at: `local` = a value made in the
    writing function, `param:τ` = a parameter of type τ, `recv:T` = the method's receiver, `global:` = a
    package-level variable; a receiver's field and a package-level variable are given by their declared TYPES),
    with why it cannot carry state from one evaluation to the next.  Files, function names, field names and
    variable names do not occur: moving or renaming code changes nothing here, writing to something new does. -/
def allowedWriteKinds : List String := [
  -- argument vectors and result containers handed to a helper by the call that made them
  "param:[]reflect.Value[]", "param:...reflect.Value[]", "param:map[string]interface{}[]",
  "param:map[uintptr]bool[]",                            -- the ownership set of one transform call
  -- a sequence is made per path step, a frame per evaluation / block / call
  "recv:sequence.([]interface{})",
  "recv:environment.(map[string]reflect.Value)", "recv:environment.(map[string]reflect.Value)[]",
  -- name/context setters: applied to the per-call copy (fact_call_copies_builtin)
  "recv:callableName.(string)", "recv:goCallable.(reflect.Value)",
  -- registries: written by Compile / Register*, never by Eval (fact_new_env_per_eval: Eval's own trace has no
  -- store through *Expr or into a package-level variable)
  "recv:Expr.(map[string]reflect.Value)", "recv:Expr.(map[string]reflect.Value)[]",
  "global:(map[string]reflect.Value)[]"]

def harmlessWrite (what : String) : Bool :=
  "local".toList.isPrefixOf what.toList ||               -- a value made in the writing function
  "param:*jxpath.DecimalFormat.".toList.isPrefixOf what.toList ||   -- the DecimalFormat made by this $formatNumber call
  allowedWriteKinds.contains what

/-- **Every write site of the evaluator is accounted for**: none writes to the parsed tree,
    to a shared built-in, or to anything else that outlives the evaluation. -/
theorem fact_writes_accounted :
    Generated.writeSites.all (fun w => harmlessWrite w.2.2) = true := by
  simp only [harmlessWrite, ← chars_eq]
  decide +kernel

/-- a cache on the expression, a package-level table or a field of a shared callable would not be accepted -/
example : harmlessWrite "recv:Expr.(*environment)" = false ∧ harmlessWrite "global:(map[string]*regexp.Regexp)[]" = false ∧
    harmlessWrite "recv:goCallable.([4]reflect.Value)[]" = false ∧ harmlessWrite "param:*jparse.FunctionCallNode.Args" = false := by
  simp only [harmlessWrite, ← chars_eq]
  decide +kernel

def hasInfix (pat : List Char) : List Char → Bool
  | [] => pat.isEmpty
  | c :: cs => pat.isPrefixOf (c :: cs) || hasInfix pat cs

/-- in particular nothing stores through a syntax-tree node (a value of a `jparse` type),
    whatever the variable holding it is called and whichever function does it -/
theorem fact_no_ast_write :
    Generated.writeSites.all (fun w => !(hasInfix "jparse.".toList w.2.2.toList)) = true := by
  simp only [← chars_eq]
  decide +kernel

def indexOfEvent (e : String) (l : List String) : Nat := l.findIdx (· == e)

/-- the call site copies the shared built-in before it sets name and context on it.  The traces
    are inlined through package-local helpers, and every function that calls a setter directly
    makes the copy first -/
theorem fact_call_copies_builtin :
    let ev := Generated.evalFunctionCallEvents
    ev.contains "copy:*" = true ∧ ev.contains "addr:&" = true ∧
    indexOfEvent "copy:*" ev < indexOfEvent "call:SetName" ev ∧
    indexOfEvent "copy:*" ev < indexOfEvent "call:SetContext" ev ∧
    indexOfEvent "call:SetContext" ev < indexOfEvent "call:Call" ev ∧
    Generated.setterSites ≠ [] ∧ Generated.setterSites.all (·.2) = true := by decide +kernel

/-- the chain operator calls through the same copying call path (and, by `fact_no_ast_write`,
    does not store into the parsed call) -/
theorem fact_chain_builds_call :
    let ev := Generated.evalFunctionApplicationEvents
    ev.contains "call:Call" = true ∧
    indexOfEvent "copy:*" ev < indexOfEvent "call:SetName" ev ∧
    indexOfEvent "copy:*" ev < indexOfEvent "call:SetContext" ev := by
  decide +kernel

/-- an evaluation stores nothing through the expression and nothing into a package-level variable: the traces
    of Eval and EvalBytes, inlined through the package-local helpers down to the evaluator's dispatcher, contain
    stores into the frames of the environment they build (so they do build one) and no store rooted at `*Expr`
    or at a global — stated without the names of the helpers -/
theorem fact_new_env_per_eval :
    (Generated.exprEvalEvents ++ Generated.exprEvalBytesEvents).all
      (fun e => e != "write:recv:Expr" && e != "write:global") = true ∧
    Generated.exprEvalEvents.contains "write:recv:environment" = true := by decide +kernel

example : (runHistory (N := Int) 50 { ast := .numop .add (.num 1) (.path [.name "a"] false) }
    [some (.obj [("a", .num 2)]), some (.obj []), some (.obj [("a", .num 2)])]).1 =
    [.ok (some (.num 3)), .ok none, .ok (some (.num 3))] := by
  rfl

end Jsonata.Props.C05
