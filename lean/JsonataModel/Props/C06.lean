/-
  Props/C06.lean — property C06: concurrent evaluations are isolated and race-free.

  Proved about the sharing-protocol model (Model/Conc.lean), for every number of threads,
  every list of calls and EVERY schedule: with per-call copies each call finds its own context
  (so each evaluation produces what it produces alone) and shared memory is never written;
  with writes into the shared function object there is a schedule on which a call finds
  another evaluation's context (the defect measured in the property text).  The tie to the
  source is regenerated: the call site copies the built-in before the name/context setters,
  every write of the evaluator packages is on the C05 allow-list (none reaches a shared
  object), the package-level registry is only touched under its lock.
  PARTIAL (DESIGN.md §6 C06): the Go memory model, the scheduler and the race detector are
  runtime behaviour no Lean model exhibits — absence of data races in the real binary is
  observed by the -race correspondence harness, not proved.
-/
import JsonataModel.Model.Conc
import JsonataModel.Generated.Facts

namespace Jsonata.Props.C06
open Jsonata.Conc

/-- The isolation claim, made inductive: between setup and invoke the thread's private copy holds
    the context of the call it is about to make. -/
def ThInv (th : Thread) (prog : List (String × Nat)) : Prop :=
  th.seen ++ alone th.todo = alone prog ∧
  (∀ f c, th.phase = .ready f c → th.priv = c ∧ ∃ rest, th.todo = (f, c) :: rest)

/-- `step .copy` as the stepping thread sees it (`step_copy`) -/
def threadStep (th : Thread) : Thread :=
  match th.phase, th.todo with
  | .idle, [] => th
  | .idle, (f, c) :: _ => { th with phase := .ready f c, priv := c }
  | .ready _ _, todo => { th with phase := .idle, todo := todo.drop 1, seen := th.seen ++ [th.priv] }

/-- Under the copy protocol a step reads and writes the stepping thread and nothing else:
    this is why no schedule can be observed. -/
theorem step_copy (s : State) (t : Nat) :
    step .copy s t = { s with threads := s.threads.modify t threadStep } := by
  unfold step
  cases ht : s.threads[t]? with
  | none => rw [List.modify_eq_self (List.getElem?_eq_none_iff.mp ht)]
  | some th =>
    have hself : s.threads.set t th = s.threads := by
      obtain ⟨hlt, rfl⟩ := List.getElem?_eq_some_iff.mp ht
      exact List.set_getElem_self hlt
    simp only [List.modify_eq_set, ht, Option.getD_some, threadStep]
    split <;> simp only [*]

theorem threadStep_inv {th : Thread} {prog : List (String × Nat)} (h : ThInv th prog) :
    ThInv (threadStep th) prog := by
  obtain ⟨hseen, hready⟩ := h
  unfold threadStep
  split
  · exact ⟨hseen, hready⟩
  · next f c rest hph htodo =>
    refine ⟨hseen, fun f' c' heq => ?_⟩
    cases heq
    exact ⟨rfl, rest, htodo⟩
  · next f c hph =>
    obtain ⟨hpriv, rest, hrest⟩ := hready f c hph
    refine ⟨?_, fun f' c' heq => by cases heq⟩
    simpa [hrest, hpriv, alone, List.append_assoc] using hseen

theorem run_copy (schedule : List Nat) (s : State) :
    run .copy s schedule =
      { s with threads := schedule.foldl (fun ths t => ths.modify t threadStep) s.threads } := by
  induction schedule generalizing s with
  | nil => rfl
  | cons t ts ih => rw [run, List.foldl_cons, ← run, ih, step_copy, List.foldl_cons]

theorem foldl_modify_inv {α : Type} (f : α → α) (P : Nat → α → Prop) (hP : ∀ t a, P t a → P t (f a))
    {is : List Nat} {l : List α} (h : ∀ t a, l[t]? = some a → P t a) :
    ∀ t a, (is.foldl (fun l i => l.modify i f) l)[t]? = some a → P t a := by
  induction is generalizing l with
  | nil => exact h
  | cons i is ih =>
    refine ih fun t a ht => ?_
    rw [List.getElem?_modify, Option.map_eq_map, Option.map_eq_some_iff] at ht
    obtain ⟨b, hb, rfl⟩ := ht
    split
    · exact hP t b (h t b hb)
    · exact h t b hb

/-- **Isolation.**  With per-call copies, under every schedule of every set of evaluations:
    what the calls of evaluation `t` have found so far, followed by the contexts of the calls it
    still has to make, is exactly what it finds when run alone. -/
theorem copy_isolated (progs : List (List (String × Nat))) (schedule : List Nat) (t : Nat) (th : Thread)
    (h : (run .copy (init progs) schedule).threads[t]? = some th) :
    th.seen ++ alone th.todo = alone (progs.getD t []) := by
  rw [run_copy] at h
  refine (foldl_modify_inv threadStep (fun t th => ThInv th (progs.getD t [])) (fun _ _ => threadStep_inv)
    (fun t th ht => ?_) t th h).1
  rw [init, List.getElem?_map, Option.map_eq_some_iff] at ht
  obtain ⟨prog, hp, rfl⟩ := ht
  rw [List.getD, hp]
  exact ⟨rfl, fun f c h => by cases h⟩

/-- an evaluation that has finished has seen exactly its own contexts -/
theorem copy_finished (progs : List (List (String × Nat))) (schedule : List Nat) (t : Nat) (th : Thread)
    (h : (run .copy (init progs) schedule).threads[t]? = some th) (hdone : th.todo = []) :
    th.seen = alone (progs.getD t []) := by
  have := copy_isolated progs schedule t th h
  simpa [hdone, alone] using this

/-- **No shared writes.**  With per-call copies no step of any schedule writes shared memory
    (so no two evaluations can conflict on it) -/
theorem copy_no_shared_writes (progs : List (List (String × Nat))) (schedule : List Nat) :
    (run .copy (init progs) schedule).sharedWrites = [] := by
  rw [run_copy]; rfl

/-- **Schedule independence.**  Two runs of the same evaluations under any two schedules: an evaluation that
    has finished in both has found the same contexts in both — the interleaving cannot be observed -/
theorem copy_schedule_independent (progs : List (List (String × Nat))) (s1 s2 : List Nat) (t : Nat)
    (th1 th2 : Thread)
    (h1 : (run .copy (init progs) s1).threads[t]? = some th1) (h2 : (run .copy (init progs) s2).threads[t]? = some th2)
    (d1 : th1.todo = []) (d2 : th2.todo = []) : th1.seen = th2.seen := by
  rw [copy_finished progs s1 t th1 h1 d1, copy_finished progs s2 t th2 h2 d2]

/-- in particular a concurrent run agrees with the run in which evaluation `t` is alone in the process -/
theorem copy_equals_alone (progs : List (List (String × Nat))) (sched sched' : List Nat) (t : Nat)
    (th th' : Thread)
    (h : (run .copy (init progs) sched).threads[t]? = some th) (d : th.todo = [])
    (h' : (run .copy (init [progs.getD t []]) sched').threads[0]? = some th') (d' : th'.todo = []) :
    th.seen = th'.seen := by
  rw [copy_finished progs sched t th h d, copy_finished _ sched' 0 th' h' d']
  simp

/-- what an evaluation has found at any moment of any schedule is a prefix of what it finds alone:
    no call ever finds a foreign context, finished or not -/
theorem copy_seen_prefix (progs : List (List (String × Nat))) (schedule : List Nat) (t : Nat) (th : Thread)
    (h : (run .copy (init progs) schedule).threads[t]? = some th) :
    th.seen <+: alone (progs.getD t []) :=
  ⟨alone th.todo, copy_isolated progs schedule t th h⟩

/-- the number of threads never changes: no schedule creates or loses an evaluation -/
theorem step_threads_length (p : Protocol) (s : State) (t : Nat) :
    (step p s t).threads.length = s.threads.length := by
  unfold step
  split
  · rfl
  · split
    · rfl
    · cases p <;> simp
    · simp

theorem run_threads_length (p : Protocol) (schedule : List Nat) (s : State) :
    (run p s schedule).threads.length = s.threads.length := by
  induction schedule generalizing s with
  | nil => rfl
  | cons t ts ih =>
    simp only [run, List.foldl_cons] at ih ⊢
    rw [ih, step_threads_length]

/-- a longer schedule extends a shorter one: running `s1 ++ s2` is running `s2` from where `s1` ended -/
theorem run_append (p : Protocol) (s : State) (s1 s2 : List Nat) :
    run p s (s1 ++ s2) = run p (run p s s1) s2 := by
  simp [run, List.foldl_append]

/-- **The model exhibits the defect.**  Writing name and context into the shared function
    object: two evaluations, one call each, schedule setup₀ setup₁ invoke₀ invoke₁ — evaluation 0
    finds evaluation 1's context, and both wrote the same shared location. -/
theorem shared_protocol_breaks :
    let s := run .shared (init [[("substringBefore", 1)], [("substringBefore", 2)]]) [0, 1, 0, 1]
    (s.threads.map (·.seen)) = [[2], [2]] ∧ s.sharedWrites = [(0, "substringBefore"), (1, "substringBefore")] := by
  decide +kernel

/-- run sequentially (one evaluation after the other) even the shared protocol is right: the
    defect is a property of schedules -/
theorem shared_protocol_sequential :
    (run .shared (init [[("f", 1), ("g", 1)], [("f", 2)]]) [0, 0, 0, 0, 1, 1]).threads.map (·.seen) = [[1, 1], [2]] := by
  decide +kernel

/-! ### regenerated facts tying the protocol to the source -/

def idx (e : String) (l : List String) : Nat := l.findIdx (· == e)

/-- the call path copies the built-in (an assignment from the dereferenced pointer, then the
    address of the copy) before SetName / SetContext, and the copy is what gets called.  Traces are
    inlined through package-local helpers and carry no variable names -/
theorem fact_call_site_copies :
    let ev := Generated.evalFunctionCallEvents
    ev.contains "copy:*" = true ∧ ev.contains "addr:&" = true ∧
    idx "copy:*" ev < idx "call:SetName" ev ∧ idx "copy:*" ev < idx "call:SetContext" ev ∧
    idx "call:SetContext" ev < idx "call:Call" ev := by
  decide +kernel

/-- every function of the evaluator that calls a setter directly makes the copy first, and the
    other entry points reach the setters only through such a function -/
theorem fact_setters_only_on_copies :
    Generated.setterSites ≠ [] ∧ Generated.setterSites.all (·.2) = true ∧
    (let ev := Generated.evalFunctionApplicationEvents
     ev.contains "call:SetContext" = false ∨ idx "copy:*" ev < idx "call:SetContext" ev) ∧
    (let ev := Generated.transformCallEvents
     ev.contains "call:SetContext" = false ∨ idx "copy:*" ev < idx "call:SetContext" ev) := by
  decide +kernel

/-- the package-level registry is used only under its mutex: every function that mentions it
    takes the lock before the first use and releases it, and the ones that write hold the write
    lock; there is a reader and a writer.  A row of `Generated.registryLocking`: function, lock ("R"/"W"),
    locked before the first use, unlocks, writes -/
theorem fact_registry_under_lock :
    Generated.registryLocking.all (fun r => r.2.2.1 && r.2.2.2.1 && (!r.2.2.2.2 || r.2.1 == "W")) = true ∧
    Generated.registryLocking.any (fun r => r.2.2.2.2) = true ∧
    Generated.registryLocking.any (fun r => !r.2.2.2.2) = true := by
  decide +kernel

/-- each Eval builds a new environment instead of sharing one, and reads the clock exactly once -/
theorem fact_env_per_eval :
    Generated.exprEvalEvents.contains "write:recv:environment" = true ∧
    Generated.exprEvalEvents.all (fun e => e != "write:recv:Expr" && e != "write:global") = true ∧
    (Generated.exprEvalEvents.filter (· == "call:Now")).length = 1 := by
  decide +kernel

example : ((run .copy (init [[("f", 1)], [("f", 2)]]) [0, 1, 0, 1]).threads.map (·.seen)) = [[1], [2]] := by decide +kernel

end Jsonata.Props.C06
