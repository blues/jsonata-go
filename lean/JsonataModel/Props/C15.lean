/-
  Props/C15.lean — property C15: array, higher-order and aggregate functions compute
  their definitions.  The function argument is a parameter of every theorem; all
  statements are for every array length.
-/
import JsonataModel.Model.Interp
import JsonataModel.Lemmas.Monad

namespace Jsonata.Props.C15
open Jsonata NumSys

variable {N : Type} [NumSys N]

/-- the function value `fv` computes the store-independent function `f` of its argument list -/
def PureCall (r : Rec N) (fv : Val N) (f : List (Option (Val N)) → Option (Val N)) : Prop :=
  ∀ args s, ∃ s', r.call fv none args s = .ok (f args, s')

/-- (value, index, whole array) trimmed to the function's arity -/
def hofArgs (argc : Nat) (whole : List (Val N)) (i : Nat) (x : Val N) : List (Option (Val N)) :=
  ([some x, some (.num (ofInt (i : Int))), some (.arr whole)] : List (Option (Val N))).take argc

/-- the present results of f(value, index, array), members in order -/
def mapSpec (f : List (Option (Val N)) → Option (Val N)) (argc : Nat) (whole : List (Val N)) :
    Nat → List (Val N) → List (Val N)
  | _, [] => []
  | i, x :: xs =>
    match f (hofArgs argc whole i x) with
    | some y => y :: mapSpec f argc whole (i + 1) xs
    | none => mapSpec f argc whole (i + 1) xs

theorem libMap_go_spec (r : Rec N) (fv : Val N) (f : List (Option (Val N)) → Option (Val N))
    (hf : PureCall r fv f) (whole : List (Val N)) (argc : Nat) (xs : List (Val N)) (i : Nat) :
    Returns (libMap.go r fv (.arr whole) argc i xs) (mapSpec f argc whole i xs) := by
  induction xs generalizing i with
  | nil => exact .pure
  | cons x xs ih =>
    refine Returns.bind (hf (hofArgs argc whole i x)) ((ih (i + 1)).bind ?_)
    simp only [mapSpec]
    cases f (hofArgs argc whole i x) <;> exact .pure

/-- **$map**: the function is called on the members in order with (value, index, whole array)
    trimmed to its arity (clamped to 1..3), and the present results are returned. A non-array
    argument counts as a one-member array. -/
theorem map_eq_spec (r : Rec N) (fv : Val N) (f : List (Option (Val N)) → Option (Val N))
    (hf : PureCall r fv f) (v : Option (Val N)) (s : Store N) :
    ∃ s', libMap r v fv s = .ok (some (.arr (mapSpec f (clamp (paramCount fv) 0 3) (forceArr v) 0 (forceArr v))), s') :=
  (show Returns (libMap r v fv) _ from (libMap_go_spec r fv f hf (forceArr v) _ (forceArr v) 0).bind (.pure)) s

/-- the members whose result is truthy, in order -/
def filterSpec (f : List (Option (Val N)) → Option (Val N)) (argc : Nat) (whole : List (Val N)) :
    Nat → List (Val N) → List (Val N)
  | _, [] => []
  | i, x :: xs =>
    if truthyO (f (hofArgs argc whole i x)) then x :: filterSpec f argc whole (i + 1) xs
    else filterSpec f argc whole (i + 1) xs

theorem libFilter_go_spec (r : Rec N) (fv : Val N) (f : List (Option (Val N)) → Option (Val N))
    (hf : PureCall r fv f) (whole : List (Val N)) (argc : Nat) (xs : List (Val N)) (i : Nat) :
    Returns (libFilterL.go r fv (.arr whole) argc i xs) (filterSpec f argc whole i xs) := by
  induction xs generalizing i with
  | nil => exact .pure
  | cons x xs ih =>
    refine Returns.bind (hf (hofArgs argc whole i x)) ((ih (i + 1)).bind ?_)
    simp only [filterSpec]
    cases truthyO (f (hofArgs argc whole i x)) <;> exact .pure

/-- **$filter**: called as by `$map`; the members whose result is truthy are returned -/
theorem filter_eq_spec (r : Rec N) (fv : Val N) (f : List (Option (Val N)) → Option (Val N))
    (hf : PureCall r fv f) (v : Option (Val N)) (s : Store N) :
    ∃ s', libFilterL r v fv s = .ok (filterSpec f (clamp (paramCount fv) 0 3) (forceArr v) 0 (forceArr v), s') :=
  libFilter_go_spec r fv f hf (forceArr v) _ (forceArr v) 0 s

/-- the filtered members are a sub-list of the input (order kept, nothing invented) -/
theorem filterSpec_sublist (f : List (Option (Val N)) → Option (Val N)) (argc : Nat) (whole : List (Val N))
    (i : Nat) (xs : List (Val N)) : (filterSpec f argc whole i xs).Sublist xs := by
  fun_induction filterSpec f argc whole i xs with
  | case1 => exact .slnil
  | case2 i x xs _ ih => exact ih.cons_cons x
  | case3 i x xs _ ih => exact ih.cons x

/-- **$single**: the unique member whose result is truthy; none or several is an error -/
theorem single_spec (r : Rec N) (fv : Val N) (f : List (Option (Val N)) → Option (Val N))
    (hf : PureCall r fv f) (v : Option (Val N)) (s : Store N) :
    ∃ s', builtinImpl r "single" [v, some fv] s =
      (match filterSpec f (clamp (paramCount fv) 0 3) (forceArr v) 0 (forceArr v) with
       | [x] => .ok (some x, s')
       | _ => .error (.lib "single")) := by
  obtain ⟨s', h⟩ := filter_eq_spec r fv f hf v s
  refine ⟨s', ?_⟩
  have hdef : builtinImpl r "single" [v, some fv] =
      (libFilterL r v fv >>= fun ys => match ys with | [x] => pure (some x) | _ => libErr "single") := rfl
  rw [hdef, evalM_bind, h]
  rcases filterSpec f _ _ 0 _ with _ | ⟨x, _ | ⟨y, ys⟩⟩ <;> rfl

theorem libReduce_go_spec (r : Rec N) (fv : Val N) (f : List (Option (Val N)) → Option (Val N))
    (hf : PureCall r fv f) (xs : List (Val N)) (acc : Option (Val N)) :
    Returns (libReduce.go r fv acc xs) (xs.foldl (fun a x => f [a, some x]) acc) := by
  induction xs generalizing acc with
  | nil => exact .pure
  | cons x xs ih => exact Returns.bind (hf [acc, some x]) (ih _)

/-- **$reduce** is the left fold, seeded by the optional initial value (else by the first
    member), and requires a two-parameter function. -/
theorem reduce_eq_spec (r : Rec N) (fv : Val N) (f : List (Option (Val N)) → Option (Val N))
    (hf : PureCall r fv f) (h2 : paramCount fv = 2) (v : Option (Val N)) (init : Option (Val N)) (s : Store N) :
    ∃ s', libReduce r v fv init s = .ok (
      (match init, forceArr v with
       | some i, xs => xs.foldl (fun a x => f [a, some x]) (some i)
       | none, x :: xs => xs.foldl (fun a x => f [a, some x]) (some x)
       | none, [] => none), s') := by
  unfold libReduce
  simp only [h2, bne_self_eq_false, Bool.false_eq_true, if_false]
  rcases init with _ | i
  · rcases forceArr v with _ | ⟨x, xs⟩
    · exact ⟨s, rfl⟩
    · exact libReduce_go_spec r fv f hf xs (some x) s
  · exact libReduce_go_spec r fv f hf (forceArr v) (some i) s

theorem reduce_requires_arity_two (r : Rec N) (fv : Val N) (h2 : paramCount fv ≠ 2)
    (v init : Option (Val N)) (s : Store N) :
    libReduce r v fv init s = .error (.lib "reduce") := by
  unfold libReduce
  have : (paramCount fv != 2) = true := by simpa using h2
  simp [this, libErr]

theorem scalar_is_singleton (x : N) (xs : List (Val N)) :
    forceArr (some (.num x)) = [.num x] ∧ forceArr (some (.arr xs)) = xs ∧
    forceArr (N := N) none = [] ∧ arrayify (some (Val.num x)) = [.num x] :=
  ⟨rfl, rfl, rfl, rfl⟩

/-- **$append** concatenates (a missing side yields the other side as it is; scalars count as one-member arrays) -/
theorem append_spec (r : Rec N) (a b : Val N) (s : Store N) :
    builtinImpl r "append" [some a, some b] s = .ok (some (.arr (arrayify (some a) ++ arrayify (some b))), s) ∧
    builtinImpl r "append" [some a, none] s = .ok (some a, s) ∧
    builtinImpl r "append" [none, some b] s = .ok (some b, s) :=
  ⟨rfl, rfl, rfl⟩

/-- **$reverse** reverses; reversing twice gives the array back -/
theorem reverse_spec (r : Rec N) (xs : List (Val N)) (s : Store N) :
    builtinImpl r "reverse" [some (.arr xs)] s = .ok (some (.arr xs.reverse), s) ∧
    builtinImpl r "reverse" [some (.arr xs.reverse)] s = .ok (some (.arr xs), s) := by
  have h : ∀ ys : List (Val N), builtinImpl r "reverse" [some (.arr ys)] s = .ok (some (.arr ys.reverse), s) :=
    fun _ => rfl
  exact ⟨h xs, by rw [h, List.reverse_reverse]⟩

/-- the result is a sub-list of the input: first occurrences, in order -/
theorem distinctL_sublist (xs seen : List (Val N)) : (distinctL xs seen).Sublist xs := by
  fun_induction distinctL xs seen with
  | case1 => exact .slnil
  | case2 x xs seen _ ih => exact ih.cons x
  | case3 x xs seen _ ih => exact ih.cons_cons x

theorem distinctL_not_seen (xs seen : List (Val N)) :
    ∀ y ∈ distinctL xs seen, ∀ z ∈ seen, valEq y z = false := by
  fun_induction distinctL xs seen with
  | case1 => exact fun _ hy => nomatch hy
  | case2 _ _ _ _ ih => exact ih
  | case3 x xs seen hs ih =>
    refine List.forall_mem_cons.mpr ⟨fun z hz => ?_, fun y hy z hz => ih y hy z (.tail _ hz)⟩
    simpa using List.any_eq_false.mp (Bool.eq_false_iff.mpr hs) z hz

/-- `=` in the direction the loop tests, a later member against an earlier one: as a law for all
    values `=` is not symmetric, since objects are compared by inclusion one way -/
theorem distinctL_pairwise_rev (xs seen : List (Val N)) :
    (distinctL xs seen).Pairwise (fun a b => valEq b a = false) := by
  fun_induction distinctL xs seen with
  | case1 => exact .nil
  | case2 _ _ _ _ ih => exact ih
  | case3 x xs seen _ ih =>
    exact List.pairwise_cons.mpr ⟨fun y hy => distinctL_not_seen xs _ y hy x (.head _), ih⟩

/-- no member of the result equals (by `=`) an earlier member of the result or a `seen` value -/
theorem distinctL_pairwise (xs seen : List (Val N)) (hsymm : ∀ a b : Val N, valEq a b = valEq b a) :
    (distinctL xs seen).Pairwise (fun a b => valEq a b = false) ∧
    ∀ y ∈ distinctL xs seen, ∀ z ∈ seen, valEq y z = false :=
  ⟨(distinctL_pairwise_rev xs seen).imp fun h => hsymm _ _ ▸ h, distinctL_not_seen xs seen⟩

/-- nothing is lost: every input member equals some member of the result (or was seen) -/
theorem distinctL_complete (xs seen : List (Val N)) (hrefl : ∀ a : Val N, a ∈ xs → valEq a a = true) :
    ∀ x ∈ xs, (∃ y ∈ distinctL xs seen, valEq x y = true) ∨ seen.any (valEq x) = true := by
  fun_induction distinctL xs seen with
  | case1 => exact fun x hx => nomatch hx
  | case2 a as seen hs ih => exact List.forall_mem_cons.mpr ⟨.inr hs, ih fun b hb => hrefl b (.tail _ hb)⟩
  | case3 a as seen hs ih =>
    refine List.forall_mem_cons.mpr ⟨.inl ⟨a, .head _, hrefl a (.head _)⟩, fun x hx => ?_⟩
    -- `x` is kept later, or equals `a` (kept now), or was seen before
    rcases ih (fun b hb => hrefl b (.tail _ hb)) x hx with ⟨y, hy, he⟩ | h
    · exact .inl ⟨y, .tail _ hy, he⟩
    · rw [List.any_cons, Bool.or_eq_true] at h
      exact h.elim (fun h => .inl ⟨a, .head _, h⟩) .inr

/-- values of different kinds stay distinct: 1 and "1", {"a":1} and {"a":"1"} -/
theorem distinct_kinds (x : N) :
    valEq (.num x) (.str "1") = false ∧
    valEq (Val.obj [("a", .num x)]) (.obj [("a", .str "1")]) = false ∧
    valEq (Val.arr [.num x]) (.arr [.str "1"]) = false ∧
    valEq (N := N) (.bool true) (.str "true") = false := by
  simp [valEq, listEq, objSub, lookupEq]

/-- every column long enough gives `n` rows, for any number of columns -/
theorem zipL_length_of (cols : List (List (Val N))) (n : Nat) (h : ∀ c ∈ cols, n ≤ c.length) :
    (zipL n cols).length = n := by
  fun_induction zipL n cols with
  | case1 => rfl
  | case2 k cols he =>
    -- an empty column is not longer than `k`
    obtain ⟨c, hc, hce⟩ := List.any_eq_true.mp he
    exact absurd (h c hc) (by simp [List.isEmpty_iff.mp hce])
  | case3 k cols _ ih =>
    rw [List.length_cons, ih]
    exact List.forall_mem_map.mpr fun c hc => by
      rw [List.length_tail]; exact Nat.le_sub_one_of_lt (h c hc)

theorem zipL_length (cols : List (List (Val N))) (n : Nat) (h : ∀ c ∈ cols, n ≤ c.length) (hne : cols ≠ []) :
    (zipL n cols).length = n :=
  zipL_length_of cols n h

/-! ### $shuffle: the inside-out Fisher–Yates of jlib.Shuffle, with the random draws explicit -/

/-- state after inserting item `x` with draw `j` (`j ≤` current length): `results[i] = results[j];
    results[j] = x` -/
def shuffleStep (res : List (Val N)) (x : Val N) (j : Nat) : List (Val N) :=
  if j < res.length then (res ++ [res.getD j x]).set j x else res ++ [x]

def shuffleWith : List (Val N) → List Nat → List (Val N) → List (Val N)
  | [], _, res => res
  | x :: xs, [], res => shuffleWith xs [] (res ++ [x])
  | x :: xs, j :: js, res => shuffleWith xs js (shuffleStep res x j)

theorem shuffleStep_perm (res : List (Val N)) (x : Val N) (j : Nat) :
    (shuffleStep res x j).Perm (res ++ [x]) := by
  unfold shuffleStep
  split
  · -- append `x`, then swap it with the item at `j`
    rename_i hj
    have := List.set_set_perm (as := res ++ [x]) (i := j) (j := res.length) (by simp; omega) (by simp)
    simpa [hj, List.getElem_append_left, List.set_append_left, List.set_append_right] using this
  · exact .refl _

/-- **$shuffle returns a permutation**, whatever the random draws are -/
theorem shuffle_perm (xs : List (Val N)) (draws : List Nat) (res : List (Val N)) :
    (shuffleWith xs draws res).Perm (res ++ xs) := by
  induction xs generalizing draws res with
  | nil => simp [shuffleWith]
  | cons x xs ih =>
    -- `x` joins `res`, at the end or by `shuffleStep`, and the rest follows
    rw [show res ++ x :: xs = (res ++ [x]) ++ xs by simp]
    cases draws with
    | nil => exact ih [] _
    | cons j js => exact (ih js _).trans ((shuffleStep_perm res x j).append_right xs)

theorem aggregate_empty_rules :
    libSum (N := N) (.arr []) = finiteOr "sum" (ofInt 0) ∧
    libMax (N := N) (.arr []) = .ok none ∧ libMin (N := N) (.arr []) = .ok none ∧
    libAverage (N := N) (.arr []) = .ok none :=
  ⟨rfl, rfl, rfl, rfl⟩

/-- `$sum` is the left-to-right sum of the members (an error when not finite) -/
theorem sum_spec (ns : List N) :
    libSum (.arr (ns.map Val.num)) = finiteOr "sum" (ns.foldl add (ofInt 0)) := by
  have : allNums (ns.map (Val.num (N := N))) = some ns := by
    induction ns with
    | nil => rfl
    | cons n ns ih => simp [allNums, ih]
  simp [libSum, numbersOf, this]
  rfl

/-- a non-numeric member is an error -/
theorem aggregate_non_numeric (s : String) (ns : List (Val N)) :
    libSum (.arr (.str s :: ns)) = .error (.lib "sum") ∧
    libMax (.arr (.str s :: ns)) = .error (.lib "max") ∧
    libMin (.arr (.str s :: ns)) = .error (.lib "min") ∧
    libAverage (.arr (.str s :: ns)) = .error (.lib "average") :=
  ⟨rfl, rfl, rfl, rfl⟩

/-! ### non-vacuity -/

example : distinctL (N := Int) [.num 1, .str "1", .num 1, .arr [.num 1], .arr [.num 1]] [] =
    [.num 1, .str "1", .arr [.num 1]] := by
  simp [distinctL, valEq, listEq, NumSys.beq]

example : shuffleWith (N := Int) [.num 1, .num 2, .num 3] [0, 0, 1] [] = [.num 2, .num 3, .num 1] := by
  rfl

end Jsonata.Props.C15
