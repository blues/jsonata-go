/-
  Props/C13.lean — property C13: order-by and $sort return stable, correctly ordered
  permutations; mis-typed keys are errors.  All statements are for every list length
  and every number of sort terms.
-/
import JsonataModel.Model.Interp
import JsonataModel.Lemmas.Monad
import JsonataModel.Lemmas.Order

namespace Jsonata.Props.C13
open Jsonata NumSys

variable {N : Type} [NumSys N]

/-- `a` comes strictly before `b` in a term of direction `d` -/
def dirLt (d : SortDir) (a b : Val N) : Bool :=
  if d == .desc then (valLt b a).getD false else (valLt a b).getD false

/-- the comparison of one sort term: numbers numerically, strings by code point, absent keys
    after present ones, `>` reverses its own term -/
def cmpKey (d : SortDir) : Option (Val N) → Option (Val N) → Ordering
  | none, none => .eq
  | none, some _ => .gt
  | some _, none => .lt
  | some a, some b => if valEq a b then .eq else if dirLt d a b then .lt else .gt

/-- the evaluator's `less` is the lexicographic product of the per-term comparisons -/
theorem sortLess_eq_lex (dirs : List SortDir) (a b : List (Option (Val N))) :
    sortLess dirs a b = (lexCmp (dirs.map cmpKey) a b == .lt) := by
  induction dirs generalizing a b with
  | nil => simp [sortLess, lexCmp]
  | cons d ds ih =>
    rcases a with _ | ⟨x, xs⟩
    · simp [sortLess, lexCmp]
    rcases b with _ | ⟨y, ys⟩
    · simp [sortLess, lexCmp]
    rcases x with _ | x <;> rcases y with _ | y <;>
      simp only [sortLess, List.map_cons, lexCmp, cmpKey, ih xs ys]
    · rfl
    · rfl
    · rfl
    · -- an undecided term passes on to the next, a decided one reads as `.lt` or `.gt`
      cases valEq x y
      · change dirLt d x y = _
        cases dirLt d x y <;> rfl
      · rfl

def KeyNone (k : Option (Val N)) : Prop := k = none
def KeyNum (k : Option (Val N)) : Prop := k = none ∨ ∃ x, k = some (.num x)
def KeyStr (k : Option (Val N)) : Prop := k = none ∨ ∃ s, k = some (.str s)

/-- the keys a term of a kind admits; an absent key fits all -/
def kindPred : TermKind → Option (Val N) → Prop
  | .unknown => KeyNone
  | .number => KeyNum
  | .string => KeyStr

/-- Absent keys last; present keys `inj x` in the order `lt`, or its reverse for a descending
    term: lawful when `lt` is a strict weak order. -/
theorem cmpKey_lawful_of {β : Type} (d : SortDir) (inj : β → Val N) {eq lt : β → β → Bool}
    (h : StrictWeak eq lt) (hEq : ∀ a b, valEq (inj a) (inj b) = eq a b)
    (hLt : ∀ a b, valLt (inj a) (inj b) = some (lt a b)) :
    LawfulCmp (cmpKey d) (fun k => k = none ∨ ∃ x, k = some (inj x)) := by
  have hd : StrictWeak eq (fun a b => dirLt d (inj a) (inj b)) := by
    simp only [dirLt, hLt, Option.getD_some]
    split
    · exact h.flip
    · exact h
  refine .of_symm_trans ?_ ?_
  · rintro _ _ (rfl | ⟨x, rfl⟩) (rfl | ⟨y, rfl⟩)
    · rfl
    · rfl
    · rfl
    · simpa only [cmpKey, hEq] using hd.lawfulCmp.symm x y trivial trivial
  · -- with a key absent, `cmpKey`'s first three equations decide; the case of three present keys is left
    rintro _ _ _ (rfl | ⟨x, rfl⟩) (rfl | ⟨y, rfl⟩) (rfl | ⟨z, rfl⟩) <;> try (simp [cmpKey]; done)
    simpa only [cmpKey, hEq] using hd.lawfulCmp.trans x y z trivial trivial trivial

theorem cmpKey_lawful [LawfulNum N] (d : SortDir) (k : TermKind) :
    LawfulCmp (cmpKey (N := N) d) (kindPred k) := by
  cases k
  · -- only absent keys, and they compare `.eq`
    refine .of_symm_trans ?_ ?_
    · rintro _ _ rfl rfl; rfl
    · rintro _ _ _ rfl rfl rfl _ _; exact nofun
  · exact cmpKey_lawful_of d .num LawfulNum.strictWeak (fun _ _ => by simp [valEq]) (fun _ _ => rfl)
  · exact cmpKey_lawful_of d .str String.strictWeak (fun _ _ => by simp [valEq]) (fun _ _ => rfl)

theorem kindPred_none (k : TermKind) : kindPred (N := N) k none := by
  cases k
  · exact rfl
  · exact .inl rfl
  · exact .inl rfl

/-- the change of a term's kind that `sortKeyCheck` allows -/
def Refines (k k' : TermKind) : Prop := k = .unknown ∨ k = k'

theorem kindPred_mono (k k' : TermKind) (h : Refines k k') (v : Option (Val N)) :
    kindPred k v → kindPred k' v := by
  rcases h with rfl | rfl
  · rintro rfl
    exact kindPred_none k'
  · exact id

/-- **Keys of another type, or of mixed number/string type within one term, are errors.**
    A successful check returns the key unchanged, refines the term's kind and the key
    conforms to it. -/
theorem sortKeyCheck_ok (kind kind' : TermKind) (v v' : Option (Val N))
    (h : sortKeyCheck kind v = .ok (v', kind')) :
    v' = v ∧ Refines kind kind' ∧ kindPred kind' v' ∧ (kind ≠ .unknown → kind' = kind) := by
  unfold sortKeyCheck at h
  split at h
  · cases h
    exact ⟨rfl, .inr rfl, kindPred_none kind, fun _ => rfl⟩
  -- a number, a string: the term's kind is not the other one (`hk`), so it is unknown or the key's own
  · split at h
    · cases h
    · rename_i hk
      cases h
      refine ⟨rfl, ?_, .inr ⟨_, rfl⟩, ?_⟩ <;> cases kind <;> simp [Refines] at hk ⊢
  · split at h
    · cases h
    · rename_i hk
      cases h
      refine ⟨rfl, ?_, .inr ⟨_, rfl⟩, ?_⟩ <;> cases kind <;> simp [Refines] at hk ⊢
  · cases h

theorem sortKeyCheck_errors (kind : TermKind) (x : N) (s : String) (b : Bool) (xs : List (Val N)) :
    sortKeyCheck .string (some (.num x)) = .error (.eval .sortMismatch) ∧
    sortKeyCheck (N := N) .number (some (.str s)) = .error (.eval .sortMismatch) ∧
    sortKeyCheck (N := N) kind (some (.bool b)) = .error (.eval .nonSortable) ∧
    sortKeyCheck kind (some (.arr xs)) = .error (.eval .nonSortable) ∧
    sortKeyCheck (N := N) kind (some .null) = .error (.eval .nonSortable) := by
  simp [sortKeyCheck]

/-- `a` may precede `b`: the comparison `evalSort` hands to `mergeSort` (inline, Model/Eval.lean) -/
def sortLe (dirs : List SortDir) (a b : Val N × List (Option (Val N))) : Bool :=
  !sortLess dirs b.2 a.2

/-- **Order-by is a stable sort.** For key tuples that conform to one kind per term (which
    `buildSortInfo` guarantees, see `sortKeyCheck_ok`), every list length and every number of
    terms: the result is a permutation of the items, ordered by the key tuples, and every
    sub-list that is already in order (in particular: items with equal key tuples) keeps its
    input order. -/
theorem orderby_stable_sort [LawfulNum N] (dirs : List SortDir) (kinds : List TermKind)
    (hlen : dirs.length = kinds.length)
    (info : List (Val N × List (Option (Val N))))
    (hconf : ∀ x ∈ info, Conforms (kinds.map kindPred) x.2) :
    let sorted := info.mergeSort (sortLe dirs)
    sorted.Perm info ∧
    sorted.Pairwise (fun a b => sortLe dirs a b = true) ∧
    (∀ ys : List (Val N × List (Option (Val N))), ys.Sublist info →
        ys.Pairwise (fun a b => sortLe dirs a b = true) → ys.Sublist sorted) := by
  have hlaw : LawfulCmp (lexCmp (dirs.map (cmpKey (N := N)))) (Conforms (kinds.map kindPred)) :=
    lexCmp_lawful _ _ (by simp [hlen]) (fun i _ _ => by
      simp only [List.getElem_map]; exact cmpKey_lawful _ _)
  have hle : sortLe (N := N) dirs = fun a b => !(lexCmp (dirs.map cmpKey) b.2 a.2 == .lt) := by
    funext a b; rw [sortLe, sortLess_eq_lex]
  rw [hle]
  exact ⟨List.mergeSort_perm _ _, hlaw.mergeSort_stable (·.2) info hconf⟩

/-- items with equal key tuples keep their input order (the usual statement of stability) -/
theorem orderby_ties_keep_order [LawfulNum N] (dirs : List SortDir) (kinds : List TermKind)
    (hlen : dirs.length = kinds.length)
    (info : List (Val N × List (Option (Val N))))
    (hconf : ∀ x ∈ info, Conforms (kinds.map kindPred) x.2)
    (a b : Val N × List (Option (Val N))) (hab : [a, b].Sublist info)
    (htie : sortLess dirs b.2 a.2 = false) :
    [a, b].Sublist (info.mergeSort (sortLe dirs)) :=
  (orderby_stable_sort dirs kinds hlen info hconf).2.2 [a, b] hab (by simp [sortLe, htie])

/-- absent keys follow all present ones, whatever the direction of the term -/
theorem absent_last (d : SortDir) (v : Val N) (ds : List SortDir) (xs ys : List (Option (Val N))) :
    sortLess (d :: ds) (some v :: xs) (none :: ys) = true ∧
    sortLess (d :: ds) (none :: xs) (some v :: ys) = false := by
  simp [sortLess]

/-- `>` reverses the order of its own term only -/
theorem descending_reverses (a b : N) (ds : List SortDir) (xs ys : List (Option (Val N)))
    (hne : beq a b = false) :
    sortLess (.desc :: ds) (some (.num a) :: xs) (some (.num b) :: ys) = lt b a ∧
    sortLess (.asc :: ds) (some (.num a) :: xs) (some (.num b) :: ys) = lt a b ∧
    sortLess (.default_ :: ds) (some (.num a) :: xs) (some (.num b) :: ys) = lt a b := by
  simp [sortLess, valEq, valLt, hne]

/-- the expression `$sort` evaluates on an all-number array without a comparator (inline in `libSort`,
    Model/Lib.lean): ascending, a permutation -/
theorem sort_numbers_perm (ns : List N) :
    (ns.mergeSort (fun a b => !lt b a)).Perm ns := List.mergeSort_perm _ _

theorem sort_numbers_sorted [L : LawfulNum N] (ns : List N) :
    (ns.mergeSort (fun a b => !lt b a)).Pairwise (fun a b => lt b a = false) := by
  have h := List.pairwise_mergeSort (le := fun a b : N => !lt b a)
    (fun a b c hab hbc => by
      simp only [Bool.not_eq_true'] at hab hbc ⊢
      exact L.strictWeak.not_lt_trans hab hbc)
    (fun a b => by
      cases h : lt b a
      · rfl
      · simp [L.lt_asymm b a h])
    ns
  simpa using h

/-- `$sort` neither loses nor invents members: same length, same members with the same multiplicities -/
theorem sort_numbers_length (ns : List N) : (ns.mergeSort (fun a b => !lt b a)).length = ns.length :=
  (sort_numbers_perm ns).length_eq

theorem sort_numbers_mem (ns : List N) (x : N) : x ∈ ns.mergeSort (fun a b => !lt b a) ↔ x ∈ ns :=
  (sort_numbers_perm ns).mem_iff

/-- sorting an array that is already in order returns it as it is: `$sort($sort(a)) = $sort(a)` -/
theorem sort_numbers_idem [LawfulNum N] (ns : List N) :
    (ns.mergeSort (fun a b => !lt b a)).mergeSort (fun a b => !lt b a) = ns.mergeSort (fun a b => !lt b a) :=
  List.mergeSort_of_pairwise ((sort_numbers_sorted ns).imp fun hab => by simp [hab])

/-- the repo's own `merge`: take from the right list exactly when swap(lhs[0], rhs[0]) -/
def goMerge (sw : Val N → Val N → Bool) : List (Val N) → List (Val N) → List (Val N)
  | [], r => r
  | l, [] => l
  | a :: l, b :: r => if sw a b then b :: goMerge sw (a :: l) r else a :: goMerge sw l (b :: r)

theorem goMerge_eq_merge (sw : Val N → Val N → Bool) (l r : List (Val N)) :
    goMerge sw l r = List.merge l r (fun a b => !sw a b) := by
  fun_induction goMerge sw l r <;> simp [*]

/-- `merge` never loses or invents an item, for any comparator at all -/
theorem goMerge_perm (sw : Val N → Val N → Bool) (l r : List (Val N)) :
    (goMerge sw l r).Perm (l ++ r) := by
  rw [goMerge_eq_merge]
  exact List.merge_perm_append _

/-- the monadic `merge` of the model agrees with the pure one when the comparator function
    computes a store-independent boolean -/
theorem mergeBy_pure (swap : Val N → Val N → EvalM N Bool) (sw : Val N → Val N → Bool)
    (hsw : ∀ a b s, ∃ s', swap a b s = .ok (sw a b, s'))
    (fuel : Nat) (l r : List (Val N)) (hf : l.length + r.length ≤ fuel) (s : Store N) :
    ∃ s', mergeBy swap fuel l r s = .ok (goMerge sw l r, s') := by
  suffices h : Returns (mergeBy swap fuel l r) (goMerge sw l r) from h s
  fun_induction goMerge sw l r generalizing fuel with
  | case1 r => cases fuel <;> cases r <;> exact .pure
  | case2 l => cases fuel <;> simpa [mergeBy] using Returns.pure (a := l)
  | case3 a l b r hs ih =>
    obtain _ | fuel := fuel
    · simp at hf
    · exact .bind (hsw a b) (by simpa [hs] using (ih fuel (by simp at hf ⊢; omega)).map (b :: ·))
  | case4 a l b r hs ih =>
    obtain _ | fuel := fuel
    · simp at hf
    · exact .bind (hsw a b) (by simpa [hs] using (ih fuel (by simp at hf ⊢; omega)).map (a :: ·))

example : sortLess (N := Int) [.default_] [some (.num 1)] [some (.num 2)] = true := by
  simp [sortLess, valEq, valLt, NumSys.beq, NumSys.lt]
example : Conforms ([TermKind.number, TermKind.string].map (kindPred (N := Int)))
    [some (.num 3), some (.str "a")] :=
  ⟨.inr ⟨_, rfl⟩, .inr ⟨_, rfl⟩, trivial⟩
example : goMerge (N := Int) (fun a b => match a, b with | .num x, .num y => decide (x > y) | _, _ => false)
    [.num 1, .num 3] [.num 2] = [.num 1, .num 2, .num 3] := by
  simp [goMerge]

end Jsonata.Props.C13
