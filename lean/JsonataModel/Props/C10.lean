/-
  Props/C10.lean — property C10: results are JSON-representable; ErrUndefined iff no value;
  EvalBytes agrees with Eval.
-/
import JsonataModel.Model.Interp
import JsonataModel.Props.C03
import JsonataModel.Generated.Facts

namespace Jsonata.Props.C10
open Jsonata NumSys

variable {N : Type} [NumSys N]

/-- what `Expr.Eval` returns to its caller -/
inductive GoResult (N : Type)
  | value (v : Val N)        -- (v, nil)
  | errUndefined             -- (nil, ErrUndefined)
  | failure (e : Err)        -- (nil, err)

/-- jsonata.go `Expr.Eval`, final conversion of the evaluator's outcome -/
def toGoResult : Except Err (Option (Val N)) → GoResult N
  | .ok (some v) => .value v
  | .ok none => .errUndefined
  | .error e => .failure e

/-- **ErrUndefined is reported exactly when the expression yields no value.** -/
theorem undefined_iff_none (o : Except Err (Option (Val N))) :
    (∃ _h : True, toGoResult o = GoResult.errUndefined) ↔ o = .ok none := by
  rcases o with _ | _ | _ <;> simp [toGoResult]

mutual
def Finite : Val N → Prop
  | .num x => isInf x = false ∧ isNaN x = false
  | .arr xs => FiniteL xs
  | .obj kvs => FiniteKV kvs
  | _ => True
def FiniteL : List (Val N) → Prop
  | [] => True
  | x :: xs => Finite x ∧ FiniteL xs
def FiniteKV : List (String × Val N) → Prop
  | [] => True
  | (_, v) :: kvs => Finite v ∧ FiniteKV kvs
end

/-- values of the model are JSON values by their type (null, booleans, numbers, strings,
    arrays, string-keyed objects, functions); the only further requirement is finiteness -/
def JsonClosed (v : Val N) : Prop := Finite v

/-- the arithmetic operators only return finite numbers -/
theorem arithmetic_closed (op : NumOp) (l r : Option (Val N)) (v : Val N)
    (h : numericOp op l r = .ok (some v)) : JsonClosed v := by
  obtain ⟨x, rfl, h1, h2⟩ := C03.numeric_value_is_finite op l r v h
  exact ⟨h1, h2⟩

/-- $sum, $average (and every other user of `finiteOr`) only return finite numbers -/
theorem finiteOr_closed (fn : String) (x : N) (v : Val N) (h : finiteOr fn x = .ok (some v)) :
    JsonClosed v := by
  unfold finiteOr at h
  split at h
  · cases h
  · next hc => cases h; simpa [JsonClosed, Finite] using hc

theorem sum_closed (v w : Val N) (h : libSum v = .ok (some w)) : JsonClosed w := by
  unfold libSum at h
  cases hn : numbersOf "sum" v with
  | error e => rw [hn] at h; cases h
  | ok ns => rw [hn] at h; exact finiteOr_closed _ _ _ h

theorem finiteL_iff (xs : List (Val N)) : FiniteL xs ↔ ∀ x ∈ xs, Finite x := by
  induction xs with
  | nil => simp [FiniteL]
  | cons x xs ih => simp [FiniteL, ih]

theorem finiteKV_iff (kvs : List (String × Val N)) : FiniteKV kvs ↔ ∀ kv ∈ kvs, Finite kv.2 := by
  induction kvs with
  | nil => simp [FiniteKV]
  | cons kv kvs ih => simp [FiniteKV, ih]

/-- containers built from closed members are closed -/
theorem array_closed (xs : List (Val N)) (h : ∀ x ∈ xs, JsonClosed x) : JsonClosed (.arr xs) :=
  (finiteL_iff xs).mpr h

/-- objects built from closed members are closed -/
theorem object_closed (kvs : List (String × Val N)) (h : ∀ kv ∈ kvs, JsonClosed kv.2) :
    JsonClosed (.obj kvs) :=
  (finiteKV_iff kvs).mpr h

/-- and conversely: every member of a closed container is closed (closure is hereditary) -/
theorem array_members_closed (xs : List (Val N)) (h : JsonClosed (.arr xs)) : ∀ x ∈ xs, JsonClosed x :=
  (finiteL_iff xs).mp h

/-- strings, booleans, `null` and functions are closed as they stand -/
theorem literals_closed (s : String) (b : Bool) :
    JsonClosed (N := N) (.str s) ∧ JsonClosed (N := N) (.bool b) ∧ JsonClosed (N := N) .null ∧
    JsonClosed (N := N) (.builtin "sum") :=
  ⟨trivial, trivial, trivial, trivial⟩

/-- a closed number is not one of those `json.Marshal` refuses (it refuses exactly the non-finite numbers;
    the model's encoder is total) -/
theorem closed_no_nonfinite (x : N) (h : JsonClosed (.num x)) : hasNonFinite (.num x) = false := by
  obtain ⟨h1, h2⟩ := h
  simp [hasNonFinite, h1, h2]

/-- jsonata.go `Expr.EvalBytes`: decode, evaluate, encode -/
def evalBytes (decode : String → Option (Val N)) (encode : Val N → Option String)
    (evalE : Val N → Except Err (Option (Val N))) (input : String) : Option String :=
  match decode input with
  | none => none                       -- not valid JSON: rejected
  | some d =>
    match toGoResult (evalE d) with
    | .value v => encode v
    | _ => none

/-- EvalBytes succeeds exactly when the input decodes, Eval on the decoded input succeeds
    and its value encodes; the output is the encoding of that same value -/
theorem evalBytes_spec (decode : String → Option (Val N)) (encode : Val N → Option String)
    (evalE : Val N → Except Err (Option (Val N))) (input out : String) :
    evalBytes decode encode evalE input = some out ↔
      ∃ d v, decode input = some d ∧ evalE d = .ok (some v) ∧ encode v = some out := by
  unfold evalBytes
  cases decode input with
  | none => simp
  | some d => rcases he : evalE d with _ | _ | v <;> simp [he, toGoResult]

/-- input that is not valid JSON is rejected -/
theorem evalBytes_rejects_non_json (decode : String → Option (Val N)) (encode : Val N → Option String)
    (evalE : Val N → Except Err (Option (Val N))) (input : String) (h : decode input = none) :
    evalBytes decode encode evalE input = none := by
  simp [evalBytes, h]

/-! ### closure at every depth, and what it buys -/

mutual
/-- **Closed values are exactly the values `json.Marshal` accepts** (the model's refusal test),
    at every depth of nesting -/
theorem closed_iff_marshals : ∀ v : Val N, JsonClosed v ↔ hasNonFinite v = false := fun v => by
  cases v with
  | num x => simp [JsonClosed, Finite, hasNonFinite]
  | arr xs => exact closedL_iff xs
  | obj kvs => exact closedKV_iff kvs
  | _ => exact ⟨fun _ => rfl, fun _ => True.intro⟩
theorem closedL_iff : ∀ xs : List (Val N), FiniteL xs ↔ hasNonFiniteL xs = false
  | [] => by simp [FiniteL, hasNonFiniteL]
  | x :: xs => by
      simp [FiniteL, hasNonFiniteL, ← closedL_iff xs, ← closed_iff_marshals x, JsonClosed]
theorem closedKV_iff : ∀ kvs : List (String × Val N), FiniteKV kvs ↔ hasNonFiniteKV kvs = false
  | [] => by simp [FiniteKV, hasNonFiniteKV]
  | (k, v) :: kvs => by
      simp [FiniteKV, hasNonFiniteKV, ← closedKV_iff kvs, ← closed_iff_marshals v, JsonClosed]
end

/-- a closed value always has a string form: `$string` and `&` cannot fail on it -/
theorem closed_has_string (v : Val N) (h : JsonClosed v) : ∃ s, stringOf v = .ok s := by
  have hm := (closed_iff_marshals v).mp h
  unfold stringOf
  split
  · exact ⟨_, rfl⟩
  · split
    · exact ⟨_, rfl⟩
    · simp [hm]

/-- **EvalBytes succeeds exactly when Eval succeeds** — for an encoder that accepts every closed value and an
    evaluator whose values are closed (the two halves the rest of this file and the correspondence establish) -/
theorem evalBytes_agrees (decode : String → Option (Val N)) (encode : Val N → Option String)
    (evalE : Val N → Except Err (Option (Val N))) (input : String) (d : Val N)
    (hd : decode input = some d)
    (henc : ∀ v, JsonClosed v → ∃ out, encode v = some out)
    (hclosed : ∀ v, evalE d = .ok (some v) → JsonClosed v) :
    (∃ out, evalBytes decode encode evalE input = some out) ↔ (∃ v, evalE d = .ok (some v)) := by
  simp only [evalBytes_spec, hd, Option.some.injEq, exists_and_left, exists_eq_left']
  constructor
  · rintro ⟨out, v, he, _⟩
    exact ⟨v, he⟩
  · rintro ⟨v, he⟩
    obtain ⟨out, ho⟩ := henc v (hclosed v he)
    exact ⟨out, v, he, ho⟩

/-- without closure the agreement fails: an evaluator returning a value the encoder refuses makes EvalBytes
    fail where Eval succeeded (the `$sum([1e308,1e308])` defect of the pinned commit, F14) -/
example : ∃ (encode : Val Int → Option String) (evalE : Val Int → Except Err (Option (Val Int))),
    (∃ v, evalE .null = .ok (some v)) ∧ evalBytes (fun _ => some .null) encode evalE "null" = none :=
  ⟨fun _ => none, fun _ => .ok (some .null), ⟨.null, rfl⟩, rfl⟩

/-- EvalBytes is Unmarshal, then Eval, then Marshal (trace inlined through package-local helpers) -/
theorem fact_evalBytes_shape :
    let ev := Generated.exprEvalBytesEvents
    ev.findIdx (· == "call:Unmarshal") < ev.findIdx (· == "call:Eval") ∧
    ev.findIdx (· == "call:Eval") < ev.findIdx (· == "call:Marshal") ∧
    ev.contains "call:Marshal" = true ∧
    (ev.filter (· == "call:Unmarshal")).length = 1 ∧ (ev.filter (· == "call:Marshal")).length = 1 := by decide +kernel

/-- Eval's final conversion tests validity (ErrUndefined), interface-ability and nil pointers -/
theorem fact_eval_conversion :
    Generated.exprEvalEvents.contains "call:IsValid" = true ∧
    Generated.exprEvalEvents.contains "call:IsNil" = true ∧
    Generated.exprEvalEvents.contains "call:Interface" = true := by decide +kernel

end Jsonata.Props.C10
