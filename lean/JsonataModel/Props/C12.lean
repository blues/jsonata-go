/-
  Props/C12.lean — property C12: lexical scoping, closures, signatures, partial
  application and chaining.
-/
import JsonataModel.Model.Interp
import JsonataModel.Lemmas.Monad
import JsonataModel.Lemmas.Assoc

namespace Jsonata.Props.C12
open Jsonata NumSys

variable {N : Type}

/-! ### the scope chain: frames are only ever appended, and a frame's parent is older -/

/-- every frame's parent was created before the frame itself -/
def WF (s : Store N) : Prop :=
  ∀ i (h : i < s.frames.size), ∀ p, (s.frames[i]).parent = some p → p < i

theorem newFrame_spec (parent : Nat) (s : Store N) :
    ∃ s', newFrame parent s = .ok (s.frames.size, s') ∧
      s'.frames.size = s.frames.size + 1 ∧
      (∀ i (h : i < s.frames.size), s'.frames[i]? = s.frames[i]?) ∧
      s'.frames[s.frames.size]? = some { parent := some parent, syms := [] } := by
  refine ⟨{ frames := s.frames.push { parent := some parent, syms := [] } }, rfl, by simp, ?_, by simp⟩
  intro i h
  simp [Array.getElem?_push, Nat.ne_of_lt h]

theorem newFrame_wf (parent : Nat) (s s' : Store N) (fr : Nat) (hwf : WF s) (hp : parent < s.frames.size)
    (h : newFrame parent s = .ok (fr, s')) : WF s' ∧ fr = s.frames.size := by
  cases h
  refine ⟨fun i hi p hpar => ?_, rfl⟩
  rw [Array.getElem_push] at hpar
  split at hpar
  · exact hwf i ‹_› p hpar
  · cases hpar
    simp only [Array.size_push] at hi
    omega

/-- Go map assignment then index, on a frame's symbol table -/
theorem bindSyms_find (syms : List (String × Option (Val N))) (k k' : String) (v : Option (Val N)) :
    (bindSyms syms k v).find? (fun p => p.1 == k') =
      if k = k' then some (k, v) else syms.find? (fun p => p.1 == k') := by
  unfold bindSyms
  split
  · next h => exact find?_map_set h k' v
  · by_cases hk : k = k' <;> simp [hk]

theorem bindVar_get_ne {env : Nat} {name : String} {v : Option (Val N)} {s s' : Store N}
    (h : bindVar env name v s = .ok ((), s')) {i : Nat} (hi : i ≠ env) : s'.frames[i]? = s.frames[i]? := by
  cases h
  cases s.frames[env]? with
  | none => rfl
  | some fr => simp [Array.set!, Ne.symm hi]

theorem bindVar_get_self {env : Nat} {name : String} {v : Option (Val N)} {s s' : Store N}
    (h : bindVar env name v s = .ok ((), s')) {fr : Frame N} (hfr : s.frames[env]? = some fr) :
    s'.frames[env]? = some { fr with syms := bindSyms fr.syms name v } := by
  cases h
  obtain ⟨hlt, rfl⟩ := Array.getElem?_eq_some_iff.mp hfr
  simp [Array.set!, hlt]

/-- `lookup` only ever visits frames at or below the one it starts from -/
theorem lookupIn_congr {s s' : Store N} (hwf : WF s) (fuel env : Nat) (name : String)
    (hsame : ∀ i, i ≤ env → s'.frames[i]? = s.frames[i]?) :
    lookupIn s'.frames fuel env name = lookupIn s.frames fuel env name := by
  induction fuel generalizing env with
  | zero => rfl
  | succ f ih =>
    simp only [lookupIn, hsame env (Nat.le_refl _)]
    cases hfr : s.frames[env]? with
    | none => rfl
    | some fr =>
      obtain ⟨hlt, rfl⟩ := Array.getElem?_eq_some_iff.mp hfr
      cases hp : s.frames[env].parent with
      | none => simp only [hp]
      | some p => simp only [hp, ih p fun i hi => hsame i (by have := hwf env hlt p hp; omega)]

/-- **A binding made in an inner scope is invisible outside it, and shadowing never alters
    the outer binding**: binding any name in a frame created later than `env` does not change
    what any name resolves to from `env`. -/
theorem binding_invisible_outside (s : Store N) (hwf : WF s) (env inner : Nat) (hlt : env < inner)
    (name : String) (v : Option (Val N)) (s' : Store N) (hb : bindVar inner name v s = .ok ((), s'))
    (fuel : Nat) (x : String) :
    lookupIn s'.frames fuel env x = lookupIn s.frames fuel env x :=
  lookupIn_congr hwf fuel env x fun i hi => bindVar_get_ne hb (by omega)

/-- a binding is visible to later lookups from the same scope -/
theorem binding_visible_later (s : Store N) (env : Nat) (name : String) (v : Option (Val N))
    (fr : Frame N) (hfr : s.frames[env]? = some fr) (s' : Store N)
    (hb : bindVar env name v s = .ok ((), s')) (fuel : Nat) :
    lookupIn s'.frames (fuel + 1) env name = some v := by
  simp only [lookupIn, bindVar_get_self hb hfr, bindSyms_find, ↓reduceIte]

theorem binding_visible_in_inner (frames : Array (Frame N)) (inner outer : Nat) (fri : Frame N)
    (hfi : frames[inner]? = some fri) (hpar : fri.parent = some outer) (name : String)
    (hns : fri.syms.find? (fun p => p.1 == name) = none) (fuel : Nat) :
    lookupIn frames (fuel + 1) inner name = lookupIn frames fuel outer name := by
  simp [lookupIn, hfi, hns, hpar]

/-- **A function may call itself through the variable it is bound to**: once `name` is bound in the scope
    `env` (to the function value, whose captured scope is `env` itself), every scope nested directly in `env`
    that does not shadow `name` — in particular the scope a call of that function creates for its parameters
    (`closure_call`: a new frame under the definition scope) — resolves `name` to that same value. -/
theorem function_sees_itself (s : Store N) (env : Nat) (name : String) (fv : Option (Val N))
    (fr : Frame N) (hfr : s.frames[env]? = some fr) (s' : Store N)
    (hb : bindVar env name fv s = .ok ((), s'))
    (inner : Nat) (fri : Frame N) (hfi : s'.frames[inner]? = some fri) (hpar : fri.parent = some env)
    (hns : fri.syms.find? (fun p => p.1 == name) = none) (fuel : Nat) :
    lookupIn s'.frames (fuel + 2) inner name = some fv := by
  rw [binding_visible_in_inner s'.frames inner env fri hfi hpar name hns (fuel + 1)]
  exact binding_visible_later s env name fv fr hfr s' hb fuel

section
variable [NumSys N]

/-- a block evaluates its expressions in a fresh frame whose parent is the enclosing scope -/
theorem block_new_scope (r : Rec N) (exprs : List (Node N)) (d : Option (Val N)) (env : Nat) (s : Store N) :
    evalNode r (.block exprs) d env s =
      (do let fr ← newFrame env; evalSeq r d fr exprs none : EvalM N (Option (Val N))) s := rfl

/-- an assignment binds in the current scope and yields the value -/
theorem assignment_binds (r : Rec N) (name : String) (e : Node N) (d : Option (Val N)) (env : Nat)
    (s s1 : Store N) (v : Option (Val N)) (he : r.ev e d env s = .ok (v, s1)) :
    evalNode r (.assign name e) d env s = (do bindVar env name v; pure v : EvalM N (Option (Val N))) s1 := by
  simp only [evalNode, evalM_bind, he]

/-- **A function value keeps the bindings and the context item of its definition site.** -/
theorem closure_captures_definition_site (r : Rec N) (params : List String) (body : Node N)
    (d : Option (Val N)) (env : Nat) (s : Store N) :
    evalNode r (.lambda params body) d env s = .ok (some (.lambda params none body env d), s) := rfl

/-- calling a closure: a new scope *under the definition scope* (not under the caller's),
    parameters bound to the arguments, body evaluated with the captured context item -/
theorem closure_call (r : Rec N) (params : List String) (body : Node N) (env : Nat) (ctx : Option (Val N))
    (callerCtx : Option (Option (Val N))) (argv : List (Option (Val N))) (s : Store N) :
    callVal r (.lambda params none body env ctx) callerCtx argv s =
      (do let fr ← newFrame env; bindParams fr params argv; r.ev body ctx fr : EvalM N (Option (Val N))) s := rfl

/-- missing arguments are bound to 'no value', surplus arguments are ignored -/
theorem bindParams_missing_surplus (env : Nat) (p q : String) (a b c : Option (Val N)) :
    bindParams env [p, q] [a] = (do bindVar env p a; bindVar env q none; pure () : EvalM N Unit) ∧
    bindParams env [p] [a, b, c] = (do bindVar env p a; pure () : EvalM N Unit) := by
  constructor <;> rfl

/-- calling something that is not a function is an error -/
theorem call_non_function (r : Rec N) (v : Val N) (hv : v.isFn = false) (args : List (Node N))
    (d : Option (Val N)) (env : Nat) (s : Store N) :
    callWithArgs r (some v) args d env .nonCallable s = .error (.eval .nonCallable) ∧
    callWithArgs r none args d env .nonCallable s = .error (.eval .nonCallable) := by
  simp [callWithArgs, hv]

/-- **v ~> f(a) equals f(v, a)**: both are the same call, and the parsed tree is not touched
    (the model has no write to the tree at all). -/
theorem chain_call_spec (r : Rec N) (l fn : Node N) (args : List (Node N)) (d : Option (Val N))
    (env : Nat) (s : Store N) :
    evalNode r (.apply l (.call fn args)) d env s = evalNode r (.call fn (l :: args)) d env s := rfl

/-- **f ~> g applies f then g** -/
theorem chain_compose_spec (r : Rec N) (g h : Val N) (c : Option (Option (Val N)))
    (x : Option (Val N)) (s : Store N) :
    callVal r (.chain g h) c [x] s =
      (do let v1 ← r.call g none [x]; r.call h none [v1] : EvalM N (Option (Val N))) s := rfl

theorem evalNode_apply (r : Rec N) (l rr : Node N) (hr : ∀ fn args, rr ≠ .call fn args)
    (d : Option (Val N)) (env : Nat) :
    evalNode r (.apply l rr) d env = (do
      let a ← r.ev l d env
      let b ← r.ev rr d env
      match b with
      | some g =>
        if !g.isFn then throw (.eval .nonCallableApply)
        match a with
        | some f => if f.isFn then pure (some (.chain f g)) else r.call g none [a]
        | none => r.call g none [a]
      | none => throw (.eval .nonCallableApply)) := by
  rw [evalNode]
  · rfl
  · exact hr

/-- a value on the left of `~>` is passed as the single argument; two functions compose -/
theorem chain_value_or_compose (r : Rec N) (l rr : Node N) (hr : ∀ fn args, rr ≠ .call fn args)
    (d : Option (Val N)) (env : Nat) (s s1 s2 : Store N) (a : Option (Val N)) (g : Val N)
    (hl : r.ev l d env s = .ok (a, s1)) (hg : r.ev rr d env s1 = .ok (some g, s2)) (hfn : g.isFn = true) :
    evalNode r (.apply l rr) d env s =
      (match a with
       | some f => if f.isFn then .ok (some (.chain f g), s2) else r.call g none [a] s2
       | none => r.call g none [a] s2) := by
  rw [evalNode_apply r l rr hr]
  simp only [evalM_bind, hl, hg, hfn, Bool.not_true, Bool.false_eq_true, ↓reduceIte]
  cases a with
  | none => rfl
  | some f => dsimp only; split <;> rfl

/-- the statement's substitution: placeholders take the supplied arguments in order (missing
    ones are 'no value'), other arguments are evaluated at the definition site -/
def substPlaceholders (sem : Node N → Option (Val N)) : List (Node N) → List (Option (Val N)) → List (Option (Val N))
  | [], _ => []
  | .placeholder :: rest, argv => argv.head?.getD none :: substPlaceholders sem rest argv.tail
  | a :: rest, argv => sem a :: substPlaceholders sem rest argv

/-- nothing is asked of the evaluator on a placeholder, where the model's own evaluator fails -/
theorem partialArgs_returns (r : Rec N) (ctx : Option (Val N)) (env : Nat) (sem : Node N → Option (Val N))
    (args : List (Node N)) (argv : List (Option (Val N)))
    (hsem : ∀ a ∈ args, a ≠ .placeholder → Returns (r.ev a ctx env) (sem a)) :
    Returns (partialArgs r ctx env args argv) (substPlaceholders sem args argv) := by
  fun_induction partialArgs r ctx env args argv with
  | case1 => exact .pure
  | case2 rest argv v ih => exact (ih (List.forall_mem_cons.mp hsem).2).bind (.pure)
  | case3 a rest argv hph ih =>
    obtain ⟨ha, hrest⟩ := List.forall_mem_cons.mp hsem
    rw [substPlaceholders.eq_3 _ _ _ _ hph]
    exact (ha hph).bind ((ih hrest).bind (.pure))

theorem partialArgs_spec (r : Rec N) (ctx : Option (Val N)) (env : Nat) (sem : Node N → Option (Val N))
    (hsem : ∀ a, PureEv (fun (_ : Unit) => r.ev a ctx env) (fun _ => sem a))
    (args : List (Node N)) (argv : List (Option (Val N))) (s : Store N) :
    ∃ s', partialArgs r ctx env args argv s = .ok (substPlaceholders sem args argv, s') :=
  partialArgs_returns r ctx env sem args argv (fun a _ _ => hsem a ()) s

/-- **f(?, x) is a function of its placeholders** -/
theorem partial_spec (r : Rec N) (g : Val N) (args : List (Node N)) (env : Nat) (pctx : Option (Val N))
    (c : Option (Option (Val N))) (argv : List (Option (Val N))) (s : Store N) :
    callVal r (.partialFn g args env pctx) c argv s =
      (do let argv' ← partialArgs r pctx env args argv; r.call g none argv' : EvalM N (Option (Val N))) s := rfl

/-- partially applying a non-function is an error -/
theorem partial_non_function (r : Rec N) (fn : Node N) (args : List (Node N)) (d : Option (Val N))
    (env : Nat) (s s1 : Store N) (v : Val N) (hv : v.isFn = false)
    (hf : r.ev fn d env s = .ok (some v, s1)) :
    evalNode r (.partial_ fn args) d env s = .error (.eval .nonCallablePartial) := by
  simp [evalNode, hf, hv]

/-- **The context a built-in receives is the context item of its own call site**, however the
    call is nested: the call node passes its own `data`, and argument evaluation (which may
    contain further calls) cannot change it. -/
theorem builtin_context_is_call_site (r : Rec N) (name : String) (args : List (Node N))
    (d : Option (Val N)) (env : Nat) (s s1 : Store N)
    (hf : r.ev (.var name) d env s = .ok (some (.builtin name), s1)) :
    evalNode r (.call (.var name) args) d env s =
      (do let argv ← evalArgs r d env args; r.call (.builtin name) (some d) argv : EvalM N (Option (Val N))) s1 := by
  simp [evalNode, hf, callWithArgs, Val.isFn]

theorem builtin_call_uses_given_context (r : Rec N) (name : String) (d : Option (Val N))
    (argv : List (Option (Val N))) (s : Store N) :
    callVal r (.builtin name) (some d) argv s = callBuiltin r name d argv s := rfl

theorem padOptional_eq_self (opts : List Bool) (argv : List (Option (Val N)))
    (h : ∀ o ∈ opts.drop argv.length, o = false) : padOptional opts argv = argv := by
  have : (opts.drop argv.length).takeWhile id = [] := by
    cases hd : opts.drop argv.length with
    | nil => rfl
    | cons o os => simp [h o (hd ▸ List.mem_cons_self)]
  simp [padOptional, this]

/-- the context is inserted as first argument when the handler says so -/
theorem context_insertion (spec : BuiltinSpec) (ctx : Option (Val N)) (argv : List (Option (Val N)))
    (h : ctxHandler spec.ch argv = true) (hu : undefHandler spec.uh (ctx :: argv) = false)
    (hp : (ctx :: argv).length = spec.params.length) (hv : spec.variadic = false) :
    goArgCount spec ctx argv = .ok (some (ctx :: argv)) := by
  have hpad := padOptional_eq_self (spec.params.map PT.isOpt) (ctx :: argv) (by simp [hp, List.drop_eq_nil_of_le])
  simp [goArgCount, h, hu, hpad, hv, hp]

/-- omitted trailing optional parameters are filled with 'no value' -/
theorem optional_padding (argv : List (Option (Val N))) (k : Nat) :
    padOptional (List.replicate argv.length false ++ List.replicate k true) argv =
      argv ++ List.replicate k none := by
  simp [padOptional]

/-- without a signature every argument list is accepted as it is -/
theorem untyped_accepts_all (ctx : Option (Val N)) (argv : List (Option (Val N))) :
    validateLambdaArgs none ctx argv = .ok argv := rfl

/-- the type letters: which kinds of value each one admits -/
theorem type_letters (x : N) (s : String) (b : Bool) (kvs : List (String × Val N)) (d : Nat) :
    validArgType (d + 1) (.num x) (.mk ptNumber .none_ []) = true ∧
    validArgType (d + 1) (.num x) (.mk ptString .none_ []) = false ∧
    validArgType (N := N) (d + 1) (.str s) (.mk ptString .none_ []) = true ∧
    validArgType (N := N) (d + 1) (.bool b) (.mk ptBool .none_ []) = true ∧
    validArgType (d + 1) (.obj kvs) (.mk ptObject .none_ []) = true ∧
    validArgType (N := N) (d + 1) (.builtin "sum") (.mk ptFunc .none_ []) = true ∧
    validArgType (N := N) (d + 1) (.builtin "sum") (.mk ptJSON .none_ []) = false ∧
    validArgType (d + 1) (.obj kvs) (.mk ptJSON .none_ []) = true ∧
    validArgType (N := N) (d + 1) (.builtin "sum") (.mk ptAny .none_ []) = true ∧
    validArgType (N := N) (d + 1) (.str s) (.mk (ptNumber + ptString) .none_ []) = true ∧
    validArgType (N := N) (d + 1) (.bool b) (.mk (ptNumber + ptString) .none_ []) = false := by
  simp [validArgType, hasBit, ptNumber, ptString, ptBool, ptObject, ptFunc, ptJSON, ptAny, Param.ty]

/-- array subtypes: every member must fit the subtype -/
theorem array_subtype (xs : List (Val N)) (sub : Param) (d : Nat) :
    validArgType (d + 1) (.arr xs) (.mk ptArray .none_ [sub]) = xs.all (fun v => validArgType d v sub) ∧
    validArgType (d + 1) (.arr xs) (.mk ptArray .none_ []) = true := by
  simp [validArgType, hasBit, ptArray, ptAny, ptJSON, Param.ty, Param.subs]

/-- argument count: exactly the parameters, unless options say otherwise -/
theorem argcount_plain (sig : List Param) (hno : ∀ p ∈ sig, p.opt = .none_) (ctx : Option (Val N))
    (argv : List (Option (Val N))) :
    (argv.length = sig.length → lambdaArgCount sig ctx argv = .ok argv) ∧
    (argv.length ≠ sig.length → lambdaArgCount sig ctx argv = .error .argCount) := by
  -- neither end of the signature carries an option
  have hend : ∀ (x : Option Param) (o : ParamOpt), (∀ p, x = some p → p ∈ sig) → o ≠ .none_ →
      (x.map (·.opt) == some o) = false := by
    rintro (_ | p) o hx ho
    · rfl
    · simpa [hno p (hx p rfl)] using ho.symm
  have hhead := hend sig.head? .contextable (fun p hp => List.mem_of_head? hp) (by decide)
  have hlast := hend sig.getLast? .variadic (fun p hp => List.mem_of_getLast? hp) (by decide)
  have hpad : padOptional (sig.map fun p => p.opt == ParamOpt.optional) argv = argv :=
    padOptional_eq_self _ _ fun o ho => by
      obtain ⟨p, hp, rfl⟩ := List.mem_map.mp (List.mem_of_mem_drop ho)
      simp [hno p hp]
  simp only [lambdaArgCount, hhead, Bool.and_false, Bool.false_eq_true, if_false, hpad, hlast, Bool.not_false,
    Bool.and_true]
  exact ⟨fun h => by simp [h], fun hne => if_pos (by simpa using Nat.lt_or_gt_of_ne hne)⟩

/-- the variadic tail collects the surplus (defined) arguments into one array -/
theorem variadic_collects (fixed : List Param) (last : Param) (hv : last.opt = .variadic)
    (argv : List (Option (Val N))) :
    wrapVariadic (fixed ++ [last]) argv =
      argv.take fixed.length ++ [some (.arr ((argv.drop fixed.length).filterMap id))] := by
  simp [wrapVariadic, hv]

/-! non-vacuity -/

example : substPlaceholders (N := Int) (fun _ => some (.num 2)) [.placeholder, .num 2, .placeholder]
    [some (.num 1), some (.num 3)] = [some (.num 1), some (.num 2), some (.num 3)] := by
  rfl
example : lambdaArgCount (N := Int) [.mk ptNumber .none_ [], .mk ptString .optional []] none [some (.num 1)] =
    .ok [some (.num 1), none] := by
  simp [lambdaArgCount, padOptional, Param.opt]

end
end Jsonata.Props.C12
