/-
  Props/C04.lean — property C04: the parse is fixed by JSONata precedence, associativity and
  parentheses.

  Proved here: the binding-power table the parser runs on is the table of the statement
  (regenerated from jparse.go on every run), the Pratt loop continues exactly while the next
  token binds tighter than the current right binding power, and each infix parser passes the
  binding power that encodes its associativity (own power: left; own power − 1: right; 0 for
  bracketed operands and for both branches of ? :).
  And the structure itself, for every tree (`parse_reads_back`): whenever the tokens of the input spell an
  expression tree built from operands, parentheses, unary minus, postfix predicates, the seventeen binary
  operators, `? :` and `:=` in which every operand binds as the table demands (left operand at least as tight,
  right operand strictly tighter, else-branch and assigned value extending to the right), the parser returns
  exactly that tree — any depth, any width; two such trees spelled by the same tokens are the same parse.
  Not proved (partial, DESIGN.md §6 C04): the same for the list-shaped constructs (calls, array and object
  constructors, grouping, order-by, lambdas) and the step from bytes to tokens for arbitrary texts (whitespace,
  quotes, `/`); both are covered by the correspondence, which prints operator trees with an independently
  written printer and compares trees (all ordered pairs/triples).
-/
import JsonataModel.Model.Parser
import JsonataModel.Lemmas.LexerProgress
import JsonataModel.Generated.Facts

namespace Jsonata.Props.C04
open Jsonata Jsonata.Lex Jsonata.Parse
open Jsonata.LexerProgress (R advance_R R_le)

/-- "postfix ( ) and [ ] and then . bind tightest, then { } grouping, then * / %, then + - &,
    then the comparison operators together with in, the order-by ^( ) and the chain ~>, then
    and, then or, then ? :, with := loosest" -/
def specRows : List (List Tok) :=
  [[.parenOpen, .bracketOpen], [.dot], [.braceOpen], [.mult, .div, .mod], [.plus, .minus, .concat],
   [.equal, .notEqual, .less, .lessEqual, .greater, .greaterEqual, .in_, .sort, .apply],
   [.and_], [.or_], [.condition], [.assign]]

theorem model_rows_eq_spec : bpsRows = specRows := rfl

/-- the rows in jparse.go are the rows of the statement -/
theorem fact_bps_rows : Generated.bpsRows = specRows.map (·.map Tok.goName) := by decide +kernel

theorem fact_bp_step : Generated.bpStep = bpStep := by decide

/-- the token-type enumeration of lexer.go is the model's -/
theorem fact_token_types : Generated.tokenTypes = allToks.map Tok.goName := by decide +kernel

/-- binding power of every token: (10 − row) × 10 for the tokens of the table, 0 otherwise -/
theorem bp_table :
    allToks.map bp =
      [0, 0, 0, 0, 0, 0, 0, 0, 0, 0,            -- eof error string number boolean null name nameEsc variable regex
       100, 0, 80, 0, 100, 0,                    -- [ ] { } ( )
       90, 0, 0, 0, 20,                          -- . , : ; ?
       60, 60, 70, 70, 70, 0,                    -- + - * / % |
       50, 50, 50, 50, 50, 50, 50, 50, 60,       -- = != < <= > >= ~> ^ &
       0, 10, 0,                                 -- .. := **
       40, 30, 50] := by decide +kernel       -- and or in

/-- an operator of a higher row binds tighter than one of a lower row -/
theorem rows_strictly_ordered :
    bp .parenOpen > bp .dot ∧ bp .dot > bp .braceOpen ∧ bp .braceOpen > bp .mult ∧ bp .mult > bp .plus ∧
    bp .plus > bp .equal ∧ bp .equal > bp .and_ ∧ bp .and_ > bp .or_ ∧ bp .or_ > bp .condition ∧
    bp .condition > bp .assign ∧ bp .assign > 0 := by decide +kernel

theorem rows_equal_power :
    bp .parenOpen = bp .bracketOpen ∧ bp .mult = bp .div ∧ bp .div = bp .mod ∧
    bp .plus = bp .minus ∧ bp .minus = bp .concat ∧
    bp .equal = bp .notEqual ∧ bp .equal = bp .less ∧ bp .equal = bp .lessEqual ∧ bp .equal = bp .greater ∧
    bp .equal = bp .greaterEqual ∧ bp .equal = bp .in_ ∧ bp .equal = bp .sort ∧ bp .equal = bp .apply := by decide +kernel

/-- the loop stops as soon as the next token does not bind tighter than `rbp` … -/
theorem ledLoop_stops (inp : Input) (pe : Nat → PState → Except PErr (PNode × PState)) (n rbp : Nat)
    (lhs : PNode) (p : PState) (h : ¬ rbp < bp p.tok.type) :
    ledLoop inp pe (n + 1) rbp lhs p = .ok (lhs, p) := by
  simp [ledLoop, h]

/-- … and otherwise consumes the operator, lets its led build the new left operand, and goes on -/
theorem ledLoop_continues (inp : Input) (pe : Nat → PState → Except PErr (PNode × PState)) (n rbp : Nat)
    (lhs : PNode) (p p1 p2 : PState) (lhs' : PNode) (h : rbp < bp p.tok.type)
    (ha : advance inp true p = .ok p1) (hl : led inp pe p.tok lhs p1 = .ok (lhs', p2)) :
    ledLoop inp pe (n + 1) rbp lhs p = ledLoop inp pe n rbp lhs' p2 := by
  simp [ledLoop, h, ha, hl, bind, Except.bind]

/-- the source's loop condition is `rbp < bp(next token)`: the expression parser (the method the exported
    `Parse` calls with 0) loops while its parameter is smaller than the value a method returns for the type of the
    current token — normalised by the extractor, so the names of the parameter and of that method do not matter -/
theorem fact_pratt_loop_cond : Generated.prattLoopCond = "rbp < bp(token)" := by decide +kernel

/-- `+` parses its right operand at its own binding power: equal precedence groups to the left
    (the same for each of the seventeen binary operators: `led_bin`) -/
theorem binary_left_assoc (inp : Input) (pe : Nat → PState → Except PErr (PNode × PState))
    (t : Token) (lhs : PNode) (p : PState) (ht : t.type = .plus) :
    led inp pe t lhs p = (do let (rhs, p1) ← pe (bp .plus) p; .ok (.numop .add lhs rhs, p1)) := by
  simp [led, ht, numOpOfTok]

theorem dot_left_assoc (inp : Input) (pe : Nat → PState → Except PErr (PNode × PState))
    (t : Token) (lhs : PNode) (p : PState) (ht : t.type = .dot) :
    led inp pe t lhs p = (do let (rhs, p1) ← pe (bp .dot) p; .ok (.dot lhs rhs, p1)) := by
  simp [led, ht]

/-- `:=` parses its value one below its own power: it groups to the right -/
theorem assign_right_assoc (inp : Input) (pe : Nat → PState → Except PErr (PNode × PState))
    (t : Token) (name : String) (p : PState) (ht : t.type = .assign) :
    led inp pe t (.var name) p = (do let (v, p1) ← pe (bp .assign - 1) p; .ok (.assign name v, p1)) := by
  simp [led, ht]

def binNode : Tok → Option (PNode → PNode → PNode)
  | .dot => some .dot
  | .apply => some .apply
  | .concat => some .concat
  | .and_ => some (.boolop .and_)
  | .or_ => some (.boolop .or_)
  | .plus => some (.numop .add) | .minus => some (.numop .sub) | .mult => some (.numop .mul)
  | .div => some (.numop .div) | .mod => some (.numop .mod)
  | .equal => some (.cmpop .eq) | .notEqual => some (.cmpop .ne) | .less => some (.cmpop .lt)
  | .lessEqual => some (.cmpop .le) | .greater => some (.cmpop .gt) | .greaterEqual => some (.cmpop .ge)
  | .in_ => some (.cmpop .in_)
  | _ => none

/-- the same for each of the seventeen binary operators (`binary_left_assoc` and `dot_left_assoc` are the cases of
    `+` and `.`) -/
theorem led_bin {inp : Input} {pe : Nat → PState → Except PErr (PNode × PState)} {t : Token} {lhs : PNode}
    {p : PState} {mk : PNode → PNode → PNode} (h : binNode t.type = some mk) :
    led inp pe t lhs p = (do let (rhs, p1) ← pe (bp t.type) p; .ok (mk lhs rhs, p1)) := by
  unfold led
  revert h
  cases t.type <;> intro h <;> cases h <;> rfl

/-- the right binding power(s) the infix parser (led) / prefix parser (nud) of a token type passes to
    parseExpression: looked up through the dispatch tables, so the names of the parser functions do not matter -/
def ledRbp (tok : String) : Option (List String) :=
  (Generated.leds.lookup tok).bind fun fn => Generated.parseExprArgs.lookup fn
def nudRbp (tok : String) : Option (List String) :=
  (Generated.nuds.lookup tok).bind fun fn => Generated.parseExprArgs.lookup fn

/-- what the parser of every operator token passes to parseExpression as right binding power, regenerated from
    the source in a normalised form (`bp` = the binding power of the function's own token; a local that names
    the value is resolved and unexported helper methods are followed, so the fact does not depend on how the
    call is written, and the parser functions are reached through the dispatch tables, so it does not depend
    on what they are called): own power for the left-associative operators, the power of `{` for the operand of a
    unary minus (above every binary operator, below the postfix brackets and the dot; F42), own power − 1 for
    `:=`, 0 for both branches of `? :` and for bracketed operands -/
theorem fact_led_right_binding_powers :
    (["typeMult", "typeDiv", "typeMod", "typePlus", "typeMinus", "typeConcat", "typeEqual", "typeNotEqual", "typeLess",
      "typeLessEqual", "typeGreater", "typeGreaterEqual", "typeIn", "typeApply", "typeAnd", "typeOr", "typeDot"].all
        fun t => ledRbp t == some ["bp"]) = true ∧
    ledRbp "typeAssign" = some ["bp-1"] ∧
    ledRbp "typeCondition" = some ["0", "0"] ∧
    ledRbp "typeBracketOpen" = some ["0"] ∧ ledRbp "typeParenOpen" = some ["0"] ∧ ledRbp "typeSort" = some ["0"] ∧
    nudRbp "typeMinus" = some ["bp:BraceOpen"] ∧ nudRbp "typeParenOpen" = some ["0"] ∧
    Generated.parseExprArgs.lookup "Parse" = some ["0"] := by decide +kernel

/-- the token types that have a nud and a led in jparse.go (sorted: the order of a map literal
    carries no meaning) -/
theorem fact_dispatch_tables :
    Generated.leds.map (·.1) =
      ["typeAnd", "typeApply", "typeAssign", "typeBraceOpen", "typeBracketOpen", "typeConcat", "typeCondition",
       "typeDiv", "typeDot", "typeEqual", "typeGreater", "typeGreaterEqual", "typeIn", "typeLess", "typeLessEqual",
       "typeMinus", "typeMod", "typeMult", "typeNotEqual", "typeOr", "typeParenOpen", "typePlus", "typeSort"] ∧
    Generated.nuds.map (·.1) =
      ["typeAnd", "typeBoolean", "typeBraceOpen", "typeBracketOpen", "typeDescendent", "typeIn", "typeMinus",
       "typeMult", "typeName", "typeNameEsc", "typeNull", "typeNumber", "typeOr", "typeParenOpen", "typePipe",
       "typeRegex", "typeString", "typeVariable"] := by decide +kernel

/-- the tokens with a non-zero binding power: the led tokens that `fact_dispatch_tables` lists (validateBindingPowers) -/
theorem led_iff_bp :
    (allToks.filter fun t => bp t != 0).map Tok.goName =
      ["typeBracketOpen", "typeBraceOpen", "typeParenOpen", "typeDot", "typeCondition", "typePlus", "typeMinus",
       "typeMult", "typeDiv", "typeMod", "typeEqual", "typeNotEqual", "typeLess", "typeLessEqual", "typeGreater",
       "typeGreaterEqual", "typeApply", "typeSort", "typeConcat", "typeAssign", "typeAnd", "typeOr", "typeIn"] := by
  decide +kernel

/-- in prefix position the keywords are names -/
theorem keywords_as_names (inp : Input) (pe : Nat → PState → Except PErr (PNode × PState))
    (t : Token) (p : PState) (h : t.type = .and_ ∨ t.type = .or_ ∨ t.type = .in_) :
    nud inp pe t p = .ok (.name (bytesToString inp t.lo t.hi), p) := by
  rcases h with h | h | h <;> simp [nud, h]

/-- the symbol and keyword tables of the model's lexer (the statement's operator set).  They are tied to
    lexer.go behaviourally: the harness sweeps every pair of punctuation characters, every ASCII character as
    a separator, words around the keywords and every letter as a regex flag through the real lexer and this
    one.  (Tables read from the source break whenever a table is rewritten — map literal ↔ switch ↔ helper —
    which says nothing about the property; see DESIGN.md 0.8.) -/
theorem symbol_tables :
    ((List.range 128).filter fun r => (symbol1 r).isSome) =
      [37, 38, 40, 41, 42, 43, 44, 45, 46, 47, 58, 59, 60, 61, 62, 63, 91, 93, 94, 123, 124, 125] ∧
    ((List.range 128).filterMap fun r => (symbol2 r).map fun p => (r, p.1, p.2.goName)) =
      [(33, 61, "typeNotEqual"), (42, 42, "typeDescendent"), (46, 46, "typeRange"), (58, 61, "typeAssign"),
       (60, 61, "typeLessEqual"), (62, 61, "typeGreaterEqual"), (126, 62, "typeApply")] ∧
    (["and", "or", "in", "true", "false", "null", "not", "And"].map fun w => (keyword w).map Tok.goName) =
      [some "typeAnd", some "typeOr", some "typeIn", some "typeBoolean", some "typeBoolean", some "typeNull", none, none] ∧
    ((List.range 128).filter isWhitespace) = [9, 10, 11, 13, 32] ∧ ((List.range 128).filter isRegexFlag) = [105, 109, 115] := by
  decide +kernel

/-- `Stream inp s ts`: started in lexer state `s`, the lexer yields the tokens `ts` one after the other,
    whichever way the parser sets the regex flag.  The parser lexes as it goes (the flag depends on its state), so
    the theorems about trees speak of the tokens the real `next` yields from the input, not of a token list.
    Hence `∀ b`: a token list is usable only if both modes yield it.  As `/` starts a regular expression when the flag
    is on, no stream holds a division token: trees with `/` are not covered. -/
inductive Stream (inp : Input) : LState → List Token → Prop
  | nil (s : LState) : Stream inp s []
  | cons (s s' : LState) (t : Token) (ts : List Token) :
      (∀ b, next inp b s = .ok (t, s')) → Stream inp s' ts → Stream inp s (t :: ts)

def Reads (inp : Input) (p : PState) : List Token → Prop
  | [] => False
  | t :: ts => p.tok = t ∧ Stream inp p.lex ts

theorem reads_advance {inp : Input} {p : PState} {t : Token} {ts : List Token} (b : Bool)
    (h : Reads inp p (t :: ts)) (hts : ts ≠ []) : ∃ q, advance inp b p = .ok q ∧ Reads inp q ts := by
  obtain ⟨_, hs⟩ := h
  cases hs with
  | nil => exact absurd rfl hts
  | cons s s' t1 ts1 hn hrest => exact ⟨⟨s', t1⟩, by simp [advance, hn b], rfl, hrest⟩

/-- The tokens are those of the input: `o` the operator or opening bracket, `c` the closing bracket, `q` and `col`
    the `?` and `:`, `v` the variable. -/
inductive E
  /-- a token that is an operand by itself, and the node it denotes -/
  | atom (t : Token) (n : PNode)
  | paren (o c : Token) (e : E)
  /-- `- e` -/
  | neg (m : Token) (e : E)
  /-- `l [ e ]` -/
  | pred (o c : Token) (l e : E)
  | bin (o : Token) (l r : E)
  | cond (q col : Token) (c t e : E)
  | assign (v o : Token) (val : E)

def isAtom : Tok → Bool
  | .variable | .name | .nameEsc | .null | .boolean => true
  | _ => false

def atomNode (inp : Input) (t : Token) : PNode :=
  match t.type with
  | .variable => .var (bytesToString inp t.lo t.hi)
  | .null => .null
  | .boolean => .bool (bytesToString inp t.lo t.hi == "true")
  | _ => .name (bytesToString inp t.lo t.hi)

/-- the tree the parser is to return (`| none => .null` is unreachable under `WF`) -/
def node (inp : Input) : E → PNode
  | .atom _ n => n
  | .paren _ _ e => .block [node inp e]
  | .neg _ e => .neg (node inp e)
  | .pred _ _ l e => .predRaw (node inp l) (node inp e)
  | .bin o l r =>
    match binNode o.type with
    | some mk => mk (node inp l) (node inp r)
    | none => .null
  | .cond _ _ c t e => .cond (node inp c) (node inp t) (some (node inp e))
  | .assign v _ val => .assign (bytesToString inp v.lo v.hi) (node inp val)

def toks : E → List Token
  | .atom t _ => [t]
  | .paren o c e => o :: (toks e ++ [c])
  | .neg m e => m :: toks e
  | .pred o c l e => toks l ++ o :: (toks e ++ [c])
  | .bin o l r => toks l ++ o :: toks r
  | .cond q col c t e => toks c ++ q :: (toks t ++ col :: toks e)
  | .assign v o val => v :: o :: toks val

/-- how tightly the outermost construct binds: the operator's binding power; atoms and parentheses
    bind tighter than every operator -/
def top : E → Nat
  | .bin o _ _ => bp o.type
  | .cond .. => bp .condition
  | .assign .. => bp .assign
  | .pred .. => bp .bracketOpen
  | _ => 1000

/-- what may follow the construct without being drawn into it: a token that binds no tighter than this.
    The else-branch of `? :` and the value of `:=` extend as far as they can (they group to the right), so only
    a token without binding power (a closing bracket, a separator, the end) can follow them. -/
def stop : E → Nat
  | .bin o _ r => min (bp o.type) (stop r)
  | .neg _ e => min (bp .braceOpen) (stop e)
  | .cond .. => 0
  | .assign .. => 0
  | .pred .. => bp .bracketOpen
  | _ => 1000

/-- the tree is one the table allows without further parentheses: the left operand binds at least as
    tightly as the operator (equal precedence groups to the left), the right operand strictly tighter -/
def WF (inp : Input) : E → Prop
  | .atom t n => ∀ pe p, nud inp pe t p = .ok (n, p)
  | .paren o c e => o.type = .parenOpen ∧ c.type = .parenClose ∧ WF inp e
  | .neg m e => m.type = .minus ∧ WF inp e ∧ bp .braceOpen < top e
  | .pred o c l e => o.type = .bracketOpen ∧ c.type = .bracketClose ∧ WF inp l ∧ WF inp e ∧ bp .bracketOpen ≤ stop l
  | .bin o l r => (binNode o.type).isSome = true ∧ WF inp l ∧ WF inp r ∧ bp o.type ≤ stop l ∧ bp o.type < top r
  | .cond q col c t e =>
    q.type = .condition ∧ col.type = .colon ∧ WF inp c ∧ WF inp t ∧ WF inp e ∧ bp .condition ≤ stop c
  | .assign v o val => v.type = .variable ∧ o.type = .assign ∧ WF inp val

section
variable {inp : Input} {pe : Nat → PState → Except PErr (PNode × PState)} {t : Token} {lhs x y : PNode}
  {p p1 p2 p3 : PState}

theorem nud_minus (ht : t.type = .minus) :
    nud inp pe t p = (do let (rhs, p1) ← pe (bp .braceOpen) p; .ok (.neg rhs, p1)) := by
  simp [nud, ht]

theorem nud_paren (ht : t.type = .parenOpen) (hp : p.tok.type ≠ .parenClose) (he : pe 0 p = .ok (x, p1))
    (hc : p1.tok.type = .parenClose) (ha : advance inp false p1 = .ok p2) :
    nud inp pe t p = .ok (.block [x], p2) := by
  simp [nud, ht, parseBlockExprs, hp, he, hc, consume, ha, bind, Except.bind]

theorem led_pred (ht : t.type = .bracketOpen) (hp : p.tok.type ≠ .bracketClose) (he : pe 0 p = .ok (x, p1))
    (hc : p1.tok.type = .bracketClose) (ha : advance inp false p1 = .ok p2) :
    led inp pe t lhs p = .ok (.predRaw lhs x, p2) := by
  simp [led, ht, hp, he, hc, consume, ha, bind, Except.bind]

theorem led_cond (ht : t.type = .condition) (he : pe 0 p = .ok (x, p1)) (hc : p1.tok.type = .colon)
    (ha : advance inp true p1 = .ok p2) (he' : pe 0 p2 = .ok (y, p3)) :
    led inp pe t lhs p = .ok (.cond lhs x (some y), p3) := by
  simp [led, ht, he, hc, consume, ha, he', bind, Except.bind]

end

theorem nud_atom {inp : Input} {pe : Nat → PState → Except PErr (PNode × PState)} {t : Token} {p : PState}
    (h : isAtom t.type = true) : nud inp pe t p = .ok (atomNode inp t, p) := by
  unfold nud atomNode
  revert h
  cases t.type <;> intro h <;> cases h <;> rfl

theorem wf_leaf {inp : Input} {t : Token} (h : isAtom t.type = true) : WF inp (.atom t (atomNode inp t)) :=
  fun _ _ => nud_atom h

/-- can start an expression: by this `nud_paren` and `led_pred` tell an operand from the empty brackets `()`, `[]` -/
def Starter (t : Tok) : Prop := t ≠ .eof ∧ t ≠ .parenClose ∧ t ≠ .bracketClose

theorem nud_ok_starter {inp : Input} {pe : Nat → PState → Except PErr (PNode × PState)} {t : Token} {p : PState}
    {r : PNode × PState} (h : nud inp pe t p = .ok r) : Starter t.type := by
  refine ⟨?_, ?_, ?_⟩ <;> intro heq <;> simp [nud, heq] at h

theorem parseExpr_step (inp : Input) (fuel rbp : Nat) (p p1 : PState) (hne : p.tok.type ≠ .eof)
    (ha : advance inp (opensOperand p.tok.type) p = .ok p1) :
    parseExpr inp (fuel + 1) rbp p =
      (do let (lhs, p2) ← nud inp (parseExpr inp fuel) p.tok p1
          ledLoop inp (parseExpr inp fuel) (inp.size + 2) rbp lhs p2) := by
  simp [parseExpr, hne, ha, bind, Except.bind]

theorem parseExpr_ok_starter {inp : Input} {fuel rbp : Nat} {p : PState} {r : PNode × PState}
    (h : parseExpr inp fuel rbp p = .ok r) : Starter p.tok.type := by
  cases fuel with
  | zero => cases h
  | succ f =>
    have hne : p.tok.type ≠ .eof := fun he => by simp [parseExpr, he, bind, Except.bind] at h
    cases ha : advance inp (opensOperand p.tok.type) p with
    | error e => simp [parseExpr, hne, ha, bind, Except.bind] at h
    | ok p1 =>
      rw [parseExpr_step inp f rbp p p1 hne ha] at h
      cases hn : nud inp (parseExpr inp f) p.tok p1 with
      | error e => rw [hn] at h; cases h
      | ok r' => exact nud_ok_starter hn

/-- tighter than `:=`, looser than an operand, to which `top` and `stop` give 1000 -/
theorem bin_bp (t : Tok) (h : (binNode t).isSome = true) : bp .assign < bp t ∧ bp t < 1000 := by
  revert h; cases t <;> decide

theorem assign_le_top {inp : Input} {e : E} (h : WF inp e) : bp .assign ≤ top e := by
  cases e with
  | bin o l r => exact Nat.le_of_lt (bin_bp _ h.1).1
  | _ => simp only [top]; decide

theorem top_pos {inp : Input} {e : E} (h : WF inp e) : 0 < top e :=
  Nat.lt_of_lt_of_le (by decide) (assign_le_top h)

theorem stop_le_top (e : E) : stop e ≤ top e := by
  have : bp Tok.braceOpen ≤ 1000 := by decide
  cases e <;> simp only [stop, top] <;> omega

/-- the parser is in its operator loop with `lhs` built, about to read `ts`; `n` is the loop's own budget, `bound` the
    caller's bound on the measure `R`, by which the `fuel` of the recursive calls suffices -/
def InLoop (inp : Input) (fuel rbp : Nat) (lhs : PNode) (ts : List Token) (bound : Nat)
    (r : Except PErr (PNode × PState)) : Prop :=
  ∃ n p', r = ledLoop inp (parseExpr inp fuel) n rbp lhs p' ∧ Reads inp p' ts ∧ R inp p' < n ∧ R inp p' < bound

section
variable {inp : Input} {fuel rbp bound : Nat} {lhs lhs' : PNode} {t : Token} {ts ts' : List Token}
  {r : Except PErr (PNode × PState)}

theorem inLoop_stops (h : InLoop inp fuel rbp lhs (t :: ts) bound r) (hbp : bp t.type ≤ rbp) :
    ∃ p', r = .ok (lhs, p') ∧ Reads inp p' (t :: ts) ∧ R inp p' < bound := by
  obtain ⟨n, p', hr, hreads, hn, hb⟩ := h
  refine ⟨p', ?_, hreads, hb⟩
  cases n with
  | zero => omega
  | succ n => rw [hr, ledLoop_stops inp _ n rbp lhs p' (by rw [hreads.1]; omega)]

/-- Into the loop by a nud, round it by a led (`InLoop.led`): a case of `parse_into_loop` only has to say what
    the nud or led makes of the tokens `ts` after its own; `advance` and both budgets are dealt with here.
    `hts` is left to `simp`: every caller's `ts` ends in a cons. -/
theorem InLoop.of_nud {p : PState} (hreads : Reads inp p (t :: ts)) (hne : t.type ≠ .eof) (hfuel : R inp p < fuel + 1)
    (hnud : ∀ p1, Reads inp p1 ts → R inp p1 < fuel →
      ∃ p2, nud inp (parseExpr inp fuel) t p1 = .ok (lhs, p2) ∧ Reads inp p2 ts' ∧ R inp p2 ≤ R inp p1)
    (hts : ts ≠ [] := by simp) :
    InLoop inp fuel rbp lhs ts' (R inp p) (parseExpr inp (fuel + 1) rbp p) := by
  obtain ⟨p1, ha, hr1⟩ := reads_advance (opensOperand p.tok.type) hreads hts
  have hp : p.tok.type ≠ .eof := hreads.1 ▸ hne
  have hd := (advance_R inp _ p p1 ha).2 hp
  obtain ⟨p2, hn, hr2, hle⟩ := hnud p1 hr1 (by omega)
  rw [parseExpr_step inp fuel rbp p p1 hp ha, hreads.1, hn]
  exact ⟨inp.size + 2, p2, rfl, hr2, R_le inp p2, by omega⟩

theorem InLoop.led (h : InLoop inp fuel rbp lhs (t :: ts) bound r) (hbp : rbp < bp t.type) (hb : bound ≤ fuel + 1)
    (hled : ∀ p1, Reads inp p1 ts → R inp p1 < fuel →
      ∃ p2, led inp (parseExpr inp fuel) t lhs p1 = .ok (lhs', p2) ∧ Reads inp p2 ts' ∧ R inp p2 ≤ R inp p1)
    (hts : ts ≠ [] := by simp) :
    InLoop inp fuel rbp lhs' ts' bound r := by
  obtain ⟨n, p, hr, hreads, hn, hb'⟩ := h
  obtain ⟨p1, ha, hr1⟩ := reads_advance true hreads hts
  have hne : p.tok.type ≠ .eof := fun he => by rw [← hreads.1, he] at hbp; exact absurd hbp (Nat.not_lt_zero _)
  have hd := (advance_R inp true p p1 ha).2 hne
  obtain ⟨p2, hl, hr2, hle⟩ := hled p1 hr1 (by omega)
  cases n with
  | zero => omega
  | succ n =>
    exact ⟨n, p2, by rw [hr, ledLoop_continues inp _ n rbp lhs p p1 p2 lhs' (hreads.1 ▸ hbp) ha (hreads.1 ▸ hl)],
      hr2, by omega, by omega⟩

end

/-- what `parse_into_loop` says of `e` (its induction hypothesis for a sub-tree): from any state about to read
    `e`'s tokens the parser gets into its loop with `e`'s node, whatever follows -/
def IntoLoop (inp : Input) (e : E) : Prop :=
  ∀ (fuel rbp : Nat) (p : PState) (t' : Token) (rest : List Token), rbp < top e →
    Reads inp p (toks e ++ t' :: rest) → bp t'.type ≤ stop e → R inp p < fuel + 1 →
    InLoop inp fuel rbp (node inp e) (t' :: rest) (R inp p) (parseExpr inp (fuel + 1) rbp p)

section
variable {inp : Input} {e : E}

/-- `e` is the left operand of the infix token `o` -/
theorem leftOperand (ih : IntoLoop inp e) {fuel rbp : Nat} {p : PState} {o : Token} {ts ts' : List Token}
    {lhs' : PNode}
    (hrbp : rbp < bp o.type) (hleft : bp o.type ≤ stop e) (hreads : Reads inp p (toks e ++ o :: ts))
    (hfuel : R inp p < fuel + 1)
    (hled : ∀ p1, Reads inp p1 ts → R inp p1 < fuel →
      ∃ p2, led inp (parseExpr inp fuel) o (node inp e) p1 = .ok (lhs', p2) ∧ Reads inp p2 ts' ∧ R inp p2 ≤ R inp p1)
    (hts : ts ≠ [] := by simp) :
    InLoop inp fuel rbp lhs' ts' (R inp p) (parseExpr inp (fuel + 1) rbp p) :=
  (ih fuel rbp p o ts (Nat.lt_of_lt_of_le hrbp (Nat.le_trans hleft (stop_le_top e))) hreads hleft hfuel).led
    hrbp (Nat.le_of_lt hfuel) hled hts

/-- `e` is a complete operand: the token after it ends the recursive call (the shape of `hnext` is `stop`'s
    own recursion: what follows `l o r` follows `r`, read at `bp o`) -/
theorem operand (ih : IntoLoop inp e) {fuel rbp : Nat} {p : PState} {t' : Token} {rest : List Token}
    (hrbp : rbp < top e)
    (hreads : Reads inp p (toks e ++ t' :: rest)) (hnext : bp t'.type ≤ min rbp (stop e)) (hfuel : R inp p < fuel) :
    ∃ p', parseExpr inp fuel rbp p = .ok (node inp e, p') ∧ Reads inp p' (t' :: rest) ∧ R inp p' ≤ R inp p := by
  cases fuel with
  | zero => omega
  | succ f =>
    obtain ⟨p', he, hr, hlt⟩ := inLoop_stops (ih f rbp p t' rest hrbp hreads (by omega) hfuel) (by omega)
    exact ⟨p', he, hr, Nat.le_of_lt hlt⟩

/-- `e` is an operand in front of a closing token `c`, which is then passed -/
theorem bracketed (ih : IntoLoop inp e) {fuel : Nat} {p : PState} {c : Token} {ct : Tok} {ts : List Token} (b : Bool)
    (htop : 0 < top e)
    (hc : c.type = ct) (hct : bp ct = 0) (hreads : Reads inp p (toks e ++ c :: ts)) (hfuel : R inp p < fuel)
    (hts : ts ≠ [] := by simp) :
    ∃ p1 p2, parseExpr inp fuel 0 p = .ok (node inp e, p1) ∧ p1.tok.type = ct ∧ advance inp b p1 = .ok p2 ∧
      Reads inp p2 ts ∧ R inp p2 ≤ R inp p := by
  obtain ⟨p1, he, hr1, hle⟩ := operand ih htop hreads (by rw [hc, hct]; omega) hfuel
  obtain ⟨p2, ha, hr2⟩ := reads_advance b hr1 hts
  exact ⟨p1, p2, he, hr1.1 ▸ hc, ha, hr2, Nat.le_trans (advance_R inp b p1 p2 ha).1 hle⟩

end

/-- **the prefix of the token stream that spells a well-formed tree is read as that tree**, whatever follows:
    after it the parser is in its operator loop with the tree as left operand -/
theorem parse_into_loop (inp : Input) (e : E) : WF inp e → ∀ (fuel rbp : Nat) (p : PState) (t' : Token) (rest : List Token),
    rbp < top e → Reads inp p (toks e ++ t' :: rest) → bp t'.type ≤ stop e → R inp p < fuel + 1 →
    InLoop inp fuel rbp (node inp e) (t' :: rest) (R inp p) (parseExpr inp (fuel + 1) rbp p) := by
  induction e with
  | atom t n =>
    intro hwf fuel rbp p t' rest _ hreads _ hfuel
    exact .of_nud hreads (nud_ok_starter (hwf (fun _ _ => .error default) default)).1 hfuel
      fun p1 hr1 _ => ⟨p1, hwf _ p1, hr1, Nat.le_refl _⟩
  | paren o c e ih =>
    intro ⟨ho, hc, hwe⟩ fuel rbp p t' rest _ hreads _ hfuel
    rw [toks, List.cons_append, List.append_assoc, List.singleton_append] at hreads
    refine .of_nud hreads (by simp [ho]) hfuel fun p1 hr1 hf1 => ?_
    obtain ⟨p2, p3, he, hp2, ha, hr3, hle⟩ := bracketed (ih hwe) false (top_pos hwe) hc (by decide) hr1 hf1
    exact ⟨p3, nud_paren ho (parseExpr_ok_starter he).2.1 he hp2 ha, hr3, hle⟩
  | neg m e ih =>
    intro ⟨hm, hwe, htop⟩ fuel rbp p t' rest _ hreads hstop hfuel
    rw [toks, List.cons_append] at hreads
    refine .of_nud hreads (by simp [hm]) hfuel fun p1 hr1 hf1 => ?_
    obtain ⟨p2, he, hr2, hle⟩ := operand (ih hwe) htop hr1 hstop hf1
    exact ⟨p2, by rw [nud_minus hm, he]; rfl, hr2, hle⟩
  | pred o c l e ihl ihe =>
    intro ⟨ho, hc, hwl, hwe, hlstop⟩ fuel rbp p t' rest hrbp hreads _ hfuel
    rw [toks, List.append_assoc, List.cons_append, List.append_assoc, List.singleton_append] at hreads
    refine leftOperand (ihl hwl) (ho ▸ hrbp) (ho ▸ hlstop) hreads hfuel fun p1 hr1 hf1 => ?_
    obtain ⟨p2, p3, he, hp2, ha, hr3, hle⟩ := bracketed (ihe hwe) false (top_pos hwe) hc (by decide) hr1 hf1
    exact ⟨p3, led_pred ho (parseExpr_ok_starter he).2.2 he hp2 ha, hr3, hle⟩
  | bin o l r ihl ihr =>
    intro ⟨hbin, hwl, hwr, hleft, hright⟩ fuel rbp p t' rest hrbp hreads hstop hfuel
    obtain ⟨mk, hmk⟩ := Option.isSome_iff_exists.mp hbin
    rw [toks, List.append_assoc, List.cons_append] at hreads
    refine leftOperand (ihl hwl) hrbp hleft hreads hfuel fun p1 hr1 hf1 => ?_
    obtain ⟨p2, he, hr2, hle⟩ := operand (ihr hwr) hright hr1 hstop hf1
    exact ⟨p2, by rw [led_bin hmk, he]; simp only [node, hmk]; rfl, hr2, hle⟩
  | cond q col c t e ihc iht ihe =>
    intro ⟨hq, hcol, hwc, hwt, hwe, hcstop⟩ fuel rbp p t' rest hrbp hreads (hstop : bp t'.type ≤ 0) hfuel
    rw [toks, List.append_assoc, List.cons_append, List.append_assoc, List.cons_append] at hreads
    refine leftOperand (ihc hwc) (hq ▸ hrbp) (hq ▸ hcstop) hreads hfuel fun p1 hr1 hf1 => ?_
    obtain ⟨p2, p3, he, hp2, ha, hr3, hle⟩ := bracketed (iht hwt) true (top_pos hwt) hcol (by decide) hr1 hf1
    obtain ⟨p4, he4, hr4, hle4⟩ := operand (ihe hwe) (top_pos hwe) hr3 (by omega) (Nat.lt_of_le_of_lt hle hf1)
    exact ⟨p4, led_cond hq he hp2 ha he4, hr4, Nat.le_trans hle4 hle⟩
  | assign v o val ih =>
    intro ⟨hv, ho, hwv⟩ fuel rbp p t' rest hrbp hreads (hstop : bp t'.type ≤ 0) hfuel
    rw [toks, List.cons_append, List.cons_append] at hreads
    have hvar : InLoop inp fuel rbp (.var (bytesToString inp v.lo v.hi)) (o :: (toks val ++ t' :: rest)) (R inp p)
        (parseExpr inp (fuel + 1) rbp p) :=
      .of_nud hreads (by simp [hv]) hfuel fun p1 hr1 _ => ⟨p1, by simp [nud, hv], hr1, Nat.le_refl _⟩
    refine hvar.led (ho ▸ hrbp) (Nat.le_of_lt hfuel) fun p1 hr1 hf1 => ?_
    obtain ⟨p2, he, hr2, hle⟩ := operand (ih hwv) (Nat.sub_one_lt_of_le (by decide) (assign_le_top hwv)) hr1
      (by omega) hf1
    exact ⟨p2, by rw [assign_right_assoc inp _ o _ p1 ho, he]; rfl, hr2, hle⟩

/-- **Reading back.**  If the token stream of the input spells a well-formed tree `e` followed by the end of
    input, the expression parser returns exactly `e`'s node — for every tree, of any depth and width. -/
theorem parse_reads_back (inp : Input) (e : E) (hwf : WF inp e) (fuel : Nat) (p : PState) (eof : Token)
    (heof : eof.type = .eof) (hreads : Reads inp p (toks e ++ [eof])) (hfuel : R inp p < fuel + 1) :
    ∃ p', parseExpr inp (fuel + 1) 0 p = .ok (node inp e, p') ∧ p'.tok = eof := by
  have h0 : bp eof.type = 0 := by rw [heof]; decide
  obtain ⟨p', he, hr, _⟩ :=
    operand (parse_into_loop inp e hwf) (top_pos hwf) hreads (by omega) hfuel
  exact ⟨p', he, hr.1⟩

/-- with the budget `parse` itself uses -/
theorem parse_reads_back_budget (inp : Input) (e : E) (hwf : WF inp e) (p : PState) (eof : Token)
    (heof : eof.type = .eof) (hreads : Reads inp p (toks e ++ [eof])) :
    ∃ p', parseExpr inp (2 * inp.size + 8) 0 p = .ok (node inp e, p') ∧ p'.tok = eof := by
  have := R_le inp p
  exact parse_reads_back inp e hwf (2 * inp.size + 7) p eof heof hreads (by omega)

/-- **Unambiguity**: two well-formed trees that are spelled by the same tokens are the same parse. -/
theorem same_tokens_same_parse (inp : Input) (e1 e2 : E) (h1 : WF inp e1) (h2 : WF inp e2) (p : PState) (eof : Token)
    (heof : eof.type = .eof) (hreads : Reads inp p (toks e1 ++ [eof])) (hsame : toks e1 = toks e2) :
    node inp e1 = node inp e2 := by
  obtain ⟨p1, he1, _⟩ := parse_reads_back_budget inp e1 h1 p eof heof hreads
  obtain ⟨p2, he2, _⟩ := parse_reads_back_budget inp e2 h2 p eof heof (hsame ▸ hreads)
  exact (Prod.mk.inj (Except.ok.inj (he1.symm.trans he2))).1

/-- `a o1 b o2 c` where `o2` does not bind tighter than `o1` (a lower row, or the same row: equal precedence
    groups to the left) is `(a o1 b) o2 c` … -/
theorem groups_left (inp : Input) (a b c : E) (o1 o2 : Token) (ha : WF inp a) (hb : WF inp b) (hc : WF inp c)
    (h1 : (binNode o1.type).isSome = true) (h2 : (binNode o2.type).isSome = true)
    (hab : bp o1.type ≤ stop a ∧ bp o1.type < top b) (hc' : bp o2.type < top c) (h : bp o2.type ≤ bp o1.type)
    (hb' : bp o2.type ≤ stop b) :
    WF inp (.bin o2 (.bin o1 a b) c) ∧ toks (.bin o2 (.bin o1 a b) c) = toks a ++ o1 :: (toks b ++ o2 :: toks c) :=
  ⟨⟨h2, ⟨h1, ha, hb, hab.1, hab.2⟩, hc, by simp only [stop]; omega, hc'⟩, by simp [toks]⟩

/-- … and where `o2` binds tighter it is `a o1 (b o2 c)` -/
theorem groups_right (inp : Input) (a b c : E) (o1 o2 : Token) (ha : WF inp a) (hb : WF inp b) (hc : WF inp c)
    (h1 : (binNode o1.type).isSome = true) (h2 : (binNode o2.type).isSome = true)
    (ha' : bp o1.type ≤ stop a) (hbc : bp o2.type ≤ stop b ∧ bp o2.type < top c) (h : bp o1.type < bp o2.type) :
    WF inp (.bin o1 a (.bin o2 b c)) ∧ toks (.bin o1 a (.bin o2 b c)) = toks a ++ o1 :: (toks b ++ o2 :: toks c) :=
  ⟨⟨h1, ha, ⟨h2, hb, hc, hbc.1, hbc.2⟩, ha', h⟩, by simp [toks]⟩

/-- parentheses override both: a parenthesised tree binds tighter than every binary operator, so it can be the right
    operand of any of them (and the left one: `stop` gives it the same 1000) -/
theorem paren_is_operand (o c : Token) (e : E) (t : Tok) (h : (binNode t).isSome = true) :
    bp t < top (.paren o c e) :=
  (bin_bp t h).2

/-! Non-vacuity: concrete inputs whose token streams (after the first token, which the examples put into the
parser state) are computed by the lexer itself. -/

deriving instance DecidableEq for Token

/-- `Stream inp s ts` as a computation: from each state the lexer is run with the regex flag off and on, and
    both runs must yield the expected token and the same next state -/
def lexes (inp : Input) : LState → List Token → Bool
  | _, [] => true
  | s, t :: ts =>
    match next inp false s, next inp true s with
    | .ok (t0, s0), .ok (t1, s1) => t0 = t && t1 = t && s1 = s0 && lexes inp s0 ts
    | _, _ => false

theorem Stream.of_lexes {inp : Input} {s : LState} {ts : List Token} (h : lexes inp s ts = true) : Stream inp s ts := by
  induction ts generalizing s with
  | nil => exact .nil s
  | cons t ts ih =>
    unfold lexes at h
    split at h
    · next t0 s0 t1 s1 h0 h1 =>
      simp only [Bool.and_eq_true, decide_eq_true_eq] at h
      obtain ⟨⟨⟨rfl, rfl⟩, rfl⟩, h⟩ := h
      exact .cons s _ _ ts (fun b => by cases b <;> assumption) (ih h)
    · cases h

/-- `a + b * (c - d)` -/
def exInput : Input := #[97, 32, 43, 32, 98, 32, 42, 32, 40, 99, 32, 45, 32, 100, 41]
def tk (ty : Tok) (lo hi : Nat) : Token := { type := ty, lo := lo, hi := hi, position := lo }
def st (c : Nat) : LState := { start := c, current := c, width := 0 }
def leaf (inp : Input) (t : Token) : E := .atom t (atomNode inp t)

def exTree : E :=
  .bin (tk .plus 2 3) (leaf exInput (tk .name 0 1))
    (.bin (tk .mult 6 7) (leaf exInput (tk .name 4 5))
      (.paren (tk .parenOpen 8 9) (tk .parenClose 14 15)
        (.bin (tk .minus 11 12) (leaf exInput (tk .name 9 10)) (leaf exInput (tk .name 13 14)))))

theorem exWF : WF exInput exTree :=
  ⟨rfl, wf_leaf rfl,
    ⟨rfl, wf_leaf rfl, ⟨rfl, rfl, ⟨rfl, wf_leaf rfl, wf_leaf rfl, by decide, by decide⟩⟩, by decide, by decide⟩,
    by decide, by decide⟩

theorem exStream : Stream exInput (st 1) (toks exTree ++ [tk .eof 15 15]).tail :=
  .of_lexes (by decide +kernel)

/-- the theorem applied to it: `a + b * (c - d)` parses with `*` under `+` and the parenthesised
    difference as the right operand of `*` -/
example : ∃ p', parseExpr exInput (2 * exInput.size + 8) 0 { lex := st 1, tok := tk .name 0 1 }
      = .ok (.numop .add (.name "a") (.numop .mul (.name "b") (.block [.numop .sub (.name "c") (.name "d")])), p') := by
  obtain ⟨p', h, _⟩ := parse_reads_back_budget exInput exTree exWF { lex := st 1, tok := tk .name 0 1 } (tk .eof 15 15) rfl
    ⟨rfl, exStream⟩
  exact ⟨p', h⟩

/-- `$v := a ? b : c ? d : e` -/
def exInput2 : Input := #[36, 118, 32, 58, 61, 32, 97, 32, 63, 32, 98, 32, 58, 32, 99, 32, 63, 32, 100, 32, 58, 32, 101]

def exTree2 : E :=
  .assign (tk .variable 1 2) (tk .assign 3 5)
    (.cond (tk .condition 8 9) (tk .colon 12 13) (leaf exInput2 (tk .name 6 7)) (leaf exInput2 (tk .name 10 11))
      (.cond (tk .condition 16 17) (tk .colon 20 21) (leaf exInput2 (tk .name 14 15)) (leaf exInput2 (tk .name 18 19))
        (leaf exInput2 (tk .name 22 23))))

theorem exWF2 : WF exInput2 exTree2 :=
  ⟨rfl, rfl, ⟨rfl, rfl, wf_leaf rfl, wf_leaf rfl,
    ⟨rfl, rfl, wf_leaf rfl, wf_leaf rfl, wf_leaf rfl, by decide⟩, by decide⟩⟩

theorem exStream2 : Stream exInput2 (st 2) (toks exTree2 ++ [tk .eof 23 23]).tail :=
  .of_lexes (by decide +kernel)

/-- `:=` takes the whole conditional as its value and the else-branch takes the second conditional:
    both group to the right -/
example : ∃ p', parseExpr exInput2 (2 * exInput2.size + 8) 0 { lex := st 2, tok := tk .variable 1 2 }
      = .ok (.assign "v" (.cond (.name "a") (.name "b") (some (.cond (.name "c") (.name "d") (some (.name "e"))))), p') := by
  obtain ⟨p', h, _⟩ := parse_reads_back_budget exInput2 exTree2 exWF2 { lex := st 2, tok := tk .variable 1 2 }
    (tk .eof 23 23) rfl ⟨rfl, exStream2⟩
  exact ⟨p', h⟩

/-- `-a[b] * c.d` -/
def exInput3 : Input := #[45, 97, 91, 98, 93, 32, 42, 32, 99, 46, 100]

def exTree3 : E :=
  .bin (tk .mult 6 7)
    (.neg (tk .minus 0 1)
      (.pred (tk .bracketOpen 2 3) (tk .bracketClose 4 5) (leaf exInput3 (tk .name 1 2)) (leaf exInput3 (tk .name 3 4))))
    (.bin (tk .dot 9 10) (leaf exInput3 (tk .name 8 9)) (leaf exInput3 (tk .name 10 11)))

theorem exWF3 : WF exInput3 exTree3 :=
  ⟨rfl, ⟨rfl, ⟨rfl, rfl, wf_leaf rfl, wf_leaf rfl, by decide⟩, by decide⟩,
    ⟨rfl, wf_leaf rfl, wf_leaf rfl, by decide, by decide⟩, by decide, by decide⟩

theorem exStream3 : Stream exInput3 (st 1) (toks exTree3 ++ [tk .eof 11 11]).tail :=
  .of_lexes (by decide +kernel)

/-- the postfix predicate binds tightest, then `.`; unary minus takes `a[b]` only (it binds tighter than `*`,
    F42), and the product groups the negated operand with `c.d` -/
example : ∃ p', parseExpr exInput3 (2 * exInput3.size + 8) 0 { lex := st 1, tok := tk .minus 0 1 }
      = .ok (.numop .mul (.neg (.predRaw (.name "a") (.name "b"))) (.dot (.name "c") (.name "d")), p') := by
  obtain ⟨p', h, _⟩ := parse_reads_back_budget exInput3 exTree3 exWF3 { lex := st 1, tok := tk .minus 0 1 }
    (tk .eof 11 11) rfl ⟨rfl, exStream3⟩
  exact ⟨p', h⟩

end Jsonata.Props.C04
