/-
  Props/C02.lean — property C02: predicates filter by truth value or select by
  position, per context item.  All statements are for every list length, every
  position and every predicate evaluator.
-/
import JsonataModel.Model.Interp
import JsonataModel.Spec.Filter
import JsonataModel.Lemmas.Monad

namespace Jsonata.Props.C02
open Jsonata Jsonata.Spec NumSys

variable {N : Type} [NumSys N]

theorem allNums_eq_numbersOnly (xs : List (Val N)) : allNums xs = numbersOnly xs := by
  induction xs with
  | nil => rfl
  | cons x xs ih => cases x <;> simp [allNums, numbersOnly, ih]

theorem position_eq_some (n : Int) (len i : Nat) :
    position n len = some i ↔ (if n < 0 then n + len else n) = (i : Int) ∧ i < len := by
  unfold position
  simp only []
  generalize (if n < 0 then n + (len : Int) else n) = k
  split
  · rw [Option.some.injEq]; omega
  · simp only [reduceCtorEq, false_iff]; omega

/-- the index arithmetic of the loop (floor, add the length when negative, compare with i)
    is the `position` of the statement -/
theorem indexHits_eq (len i : Nat) (hi : i < len) (ns : List N) :
    indexHits len i ns = (ns.filter fun x => position (toInt (floor x)) len = some i).length := by
  rw [← List.countP_eq_length_filter]
  induction ns with
  | nil => rfl
  | cons x xs ih =>
    rw [indexHits, ih, List.countP_cons, Nat.add_comm]
    simp [position_eq_some, hi]

theorem filterKeep_eq (len i : Nat) (hi : i < len) (res : Option (Val N)) :
    filterKeep len i res = keepCount res i len := by
  unfold filterKeep keepCount
  rcases res with _ | v
  · rfl
  · cases v with
    | num x =>
      by_cases hp : position (toInt (floor x)) len = some i <;>
        simp [allNums_eq_numbersOnly, numbersOnly, indexHits_eq len i hi, hp]
    | arr xs =>
      simp only [allNums_eq_numbersOnly]
      cases numbersOnly xs with
      | none => rfl
      | some ns => exact indexHits_eq len i hi ns
    | _ => rfl

/-- The predicate is only ever evaluated on an item, so nothing is asked of `ev none`.  (The `PureEv` hypothesis of
    the statements below also asks that `ev none` return no value, which the model's evaluator does not do for a
    literal predicate such as `[0]`.) -/
theorem applyFilterLoop_returns (ev : Option (Val N) → EvalM N (Option (Val N)))
    (p : Val N → Option (Val N)) (hev : ∀ v, Returns (ev (some v)) (p v))
    (len : Nat) (items : List (Val N)) (i : Nat) (hlen : i + items.length ≤ len) :
    Returns (applyFilterLoop ev len i items) (filterFrom p len i items) := by
  induction items generalizing i with
  | nil => exact .pure
  | cons x xs ih =>
    simp only [List.length_cons] at hlen
    rw [filterFrom, ← filterKeep_eq len i (by omega)]
    exact Returns.bind (hev x) ((ih (i + 1) (by omega)).bind (.pure))

theorem applyFilter_returns (ev : Option (Val N) → EvalM N (Option (Val N)))
    (p : Val N → Option (Val N)) (hev : ∀ v, Returns (ev (some v)) (p v)) (items : List (Val N)) :
    Returns (applyFilter ev items) (specFilter p items) :=
  applyFilterLoop_returns ev p hev items.length items 0 (by omega)

theorem applyFilterLoop_eq_spec (ev : Option (Val N) → EvalM N (Option (Val N)))
    (p : Val N → Option (Val N)) (hev : PureEv ev (fun x => match x with | some v => p v | none => none))
    (len : Nat) (items : List (Val N)) (i : Nat) (hlen : i + items.length ≤ len) :
    Returns (applyFilterLoop ev len i items) (filterFrom p len i items) :=
  applyFilterLoop_returns ev p (fun v => hev (some v)) len items i hlen

/-- **applyFilter = specFilter.** For every predicate evaluator that computes a
    store-independent function `p`, and every list of items (any length), the filter of the
    evaluator returns exactly the specified list. -/
theorem applyFilter_eq_spec (ev : Option (Val N) → EvalM N (Option (Val N)))
    (p : Val N → Option (Val N)) (hev : PureEv ev (fun x => match x with | some v => p v | none => none))
    (items : List (Val N)) (s : Store N) :
    ∃ s', applyFilter ev items s = .ok (specFilter p items, s') :=
  applyFilterLoop_eq_spec ev p hev items.length items 0 (by omega) s

/-- an error raised by the predicate on the first item is the outcome of the filter -/
theorem applyFilter_error (ev : Option (Val N) → EvalM N (Option (Val N))) (x : Val N)
    (xs : List (Val N)) (s : Store N) (e : Err) (h : ev (some x) s = .error e) :
    applyFilter ev (x :: xs) s = .error e := by
  rw [applyFilter, applyFilterLoop, evalM_bind, h]

/-- `position` in closed form -/
theorem position_nonneg (n : Int) (len : Nat) (h0 : 0 ≤ n) :
    position n len = if n < len then some n.toNat else none := by
  simp only [position, Int.not_lt.mpr h0, ↓reduceIte, h0, true_and]

theorem position_neg (n : Int) (len : Nat) (h0 : n < 0) :
    position n len = if 0 ≤ n + len then some (n + len).toNat else none := by
  have : n + (len : Int) < len := by omega
  simp only [position, h0, ↓reduceIte, this, and_true]

/-- a selected position is always inside the list -/
theorem position_lt (n : Int) (len i : Nat) (h : position n len = some i) : i < len :=
  ((position_eq_some n len i).mp h).2

theorem filterFrom_replicate_none (p : Val N → Option (Val N)) (len : Nat) (items : List (Val N))
    (i : Nat) (h : ∀ j x, items[j]? = some x → keepCount (p x) (i + j) len = 0) :
    filterFrom p len i items = [] := by
  induction items generalizing i with
  | nil => rfl
  | cons x xs ih =>
    rw [filterFrom, show keepCount (p x) i len = 0 from h 0 x rfl, List.replicate_zero, List.nil_append]
    exact ih (i + 1) fun j y hy => by rw [Nat.add_right_comm]; exact h (j + 1) y hy

/-- when exactly position `k` is selected, and once, the result is the item at `k` -/
theorem filterFrom_single (p : Val N → Option (Val N)) (len k : Nat)
    (h : ∀ x j, keepCount (p x) j len = if j = k then 1 else 0) :
    ∀ (xs : List (Val N)) (i d : Nat), i + d = k → filterFrom p len i xs = (xs[d]?).toList
  | [], _, _, _ => rfl
  | x :: xs, i, 0, hk => by
    -- `x` is the item at `k`; the positions after it are not selected
    rw [filterFrom, h, if_pos (by omega),
      filterFrom_replicate_none p len xs (i + 1) fun j y _ => by rw [h, if_neg (by omega)]]
    rfl
  | x :: xs, i, d + 1, hk => by
    rw [filterFrom, h, if_neg (by omega), filterFrom_single p len k h xs (i + 1) d (by omega)]
    rfl

/-- **Positional selection.** When the predicate yields the number `n` for every item, the
    result is the single item at position `floor n` (negative positions counting back from
    the end) or nothing when that position is outside the list — for every list length. -/
theorem filter_positional (p : Val N → Option (Val N)) (n : N) (items : List (Val N))
    (hp : ∀ x, p x = some (.num n)) :
    specFilter p items =
      match position (toInt (floor n)) items.length with
      | some k => (items[k]?).toList
      | none => [] := by
  unfold specFilter
  cases hpos : position (toInt (floor n)) items.length with
  | none => exact filterFrom_replicate_none p _ items 0 fun j x _ => by simp [hp, keepCount, hpos]
  | some k =>
    exact filterFrom_single p items.length k (fun x j => by simp [hp, keepCount, hpos, eq_comm]) items 0 k
      (Nat.zero_add k)

theorem keepCount_boolean (res : Option (Val N)) (i len : Nat) (h1 : ∀ n, res ≠ some (.num n))
    (h2 : ∀ xs, res = some (.arr xs) → numbersOnly xs = none) :
    keepCount res i len = if truthyO res then 1 else 0 := by
  unfold keepCount
  rcases res with _ | v
  · rfl
  · cases v with
    | num n => exact absurd rfl (h1 n)
    | arr ys => simp only [h2 ys rfl, truthyO]; rfl
    | _ => rfl

/-- **Boolean filtering.** When the predicate never yields a number or an array consisting
    only of numbers, the result is the sub-list of the items whose predicate value is truthy,
    in the original order. -/
theorem filter_boolean (p : Val N → Option (Val N)) (items : List (Val N))
    (hp : ∀ x, (∀ n, p x ≠ some (.num n)) ∧ (∀ xs, p x = some (.arr xs) → numbersOnly xs = none)) :
    specFilter p items = items.filter (fun x => truthyO (p x)) := by
  unfold specFilter
  generalize items.length = len, 0 = i
  induction items generalizing i with
  | nil => rfl
  | cons x xs ih =>
    rw [filterFrom, keepCount_boolean _ i len (hp x).1 (hp x).2, ih, List.filter_cons]
    cases truthyO (p x) <;> rfl

/-- the result is a sub-list up to multiplicity: original order is kept -/
theorem filter_order (p : Val N → Option (Val N)) (len : Nat) (items : List (Val N)) (i : Nat) :
    ∃ counts : List Nat, counts.length = items.length ∧
      filterFrom p len i items = (List.zipWith (fun c x => List.replicate c x) counts items).flatten := by
  induction items generalizing i with
  | nil => exact ⟨[], rfl, rfl⟩
  | cons x xs ih =>
    obtain ⟨cs, hl, he⟩ := ih (i + 1)
    exact ⟨keepCount (p x) i len :: cs, by simp [hl], by simp [filterFrom, he]⟩

theorem foldl_specFilter_nil (fps : List (Node N × (Val N → Option (Val N)))) :
    fps.foldl (fun acc fp => specFilter fp.2 acc) [] = [] := by
  induction fps with
  | nil => rfl
  | cons _ _ ih => exact ih

/-- any number of stacked predicates: each filters the survivors of the one before -/
theorem applyFilters_returns (r : Rec N) (env : Nat) (fps : List (Node N × (Val N → Option (Val N))))
    (h : ∀ fp ∈ fps, ∀ v, Returns (r.ev fp.1 (some v) env) (fp.2 v)) (items : List (Val N)) :
    Returns (applyFilters r env (fps.map (·.1)) items) (fps.foldl (fun acc fp => specFilter fp.2 acc) items) := by
  induction fps generalizing items with
  | nil => exact .pure
  | cons fp fps ih =>
    refine Returns.bind (applyFilter_returns _ fp.2 (h fp (.head _)) items) ?_
    rw [List.foldl_cons]
    cases specFilter fp.2 items with
    | nil =>
      -- nothing survives: the remaining predicates are skipped, and would select nothing
      rw [foldl_specFilter_nil]
      exact .pure
    | cons _ _ => exact ih (fun fp hfp => h fp (.tail _ hfp)) _

/-- a head with a value under one or more predicates: the survivors of all of them, normalised -/
theorem evalPredicate_spec (r : Rec N) (expr : Node N) (d : Option (Val N)) (env : Nat) (v : Val N)
    (s s1 : Store N) (hexpr : r.ev expr d env s = .ok (some v, s1))
    (fp : Node N × (Val N → Option (Val N))) (fps : List (Node N × (Val N → Option (Val N))))
    (h : ∀ fp' ∈ fp :: fps, ∀ v, Returns (r.ev fp'.1 (some v) env) (fp'.2 v)) :
    ∃ s', evalPredicate r expr ((fp :: fps).map (·.1)) d env s =
      .ok (normalise ((fp :: fps).foldl (fun acc fp => specFilter fp.2 acc) (arrayify (some v))), s') := by
  obtain ⟨s2, h2⟩ := applyFilters_returns r env (fp :: fps) h (arrayify (some v)) s1
  refine ⟨s2, ?_⟩
  simp only [evalPredicate, evalM_bind, hexpr, List.map_cons] at h2 ⊢
  rw [h2]
  rcases List.foldl _ _ _ with _ | ⟨y, _ | ⟨z, zs⟩⟩ <;> rfl

/-- nothing kept is 'no value', one item kept is the item itself -/
theorem predicate_normalises (r : Rec N) (expr : Node N) (f : Node N) (d : Option (Val N)) (env : Nat)
    (p : Val N → Option (Val N)) (v : Val N) (s s1 : Store N)
    (hexpr : r.ev expr d env s = .ok (some v, s1))
    (hev : PureEv (fun x => r.ev f x env) (fun x => match x with | some v => p v | none => none)) :
    ∃ s', evalPredicate r expr [f] d env s = .ok (normalise (specFilter p (arrayify (some v))), s') :=
  evalPredicate_spec r expr d env v s s1 hexpr (f, p) [] (List.forall_mem_singleton.mpr fun v => hev (some v))

/-- a head without value has no value, whatever the predicates -/
theorem predicate_of_nothing (r : Rec N) (expr : Node N) (fs : List (Node N)) (d : Option (Val N))
    (env : Nat) (s s1 : Store N) (hexpr : r.ev expr d env s = .ok (none, s1)) :
    evalPredicate r expr fs d env s = .ok (none, s1) := by
  rw [evalPredicate, evalM_bind, hexpr]
  rfl

/-- successive predicates apply to the survivors of the previous one -/
theorem stacked_filters (r : Rec N) (env : Nat) (f g : Node N) (items : List (Val N))
    (p q : Val N → Option (Val N)) (s : Store N)
    (hf : PureEv (fun x => r.ev f x env) (fun x => match x with | some v => p v | none => none))
    (hg : PureEv (fun x => r.ev g x env) (fun x => match x with | some v => q v | none => none)) :
    ∃ s', applyFilters r env [f, g] items s = .ok (specFilter q (specFilter p items), s') :=
  applyFilters_returns r env [(f, p), (g, q)]
    (List.forall_mem_cons.mpr ⟨fun v => hf (some v), List.forall_mem_singleton.mpr fun v => hg (some v)⟩) items s

/-! ### non-vacuity: concrete instances on the exact number system `Int` -/

example : position (-1) 3 = some 2 := by decide
example : position 3 3 = none := by decide
example : position (-4) 3 = none := by decide
example : specFilter (N := Int) (fun _ => some (.num (-1))) [.num 10, .num 20, .num 30] = [.num 30] := by
  rfl
example : specFilter (N := Int) (fun _ => some (.arr [.num 1, .num 1])) [.num 10, .num 20] = [.num 20, .num 20] := by
  rfl

end Jsonata.Props.C02
