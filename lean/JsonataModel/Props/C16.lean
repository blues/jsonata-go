/-
  Props/C16.lean — property C16: string functions work on Unicode code points and satisfy
  inverse laws.  Strings are code-point lists; every statement is for all strings and all
  integer parameters.
-/
import JsonataModel.Model.Strings

namespace Jsonata.Props.C16
open Jsonata Jsonata.Str

/-- the statement's definition: the code-point slice, a negative start counting from the
    end (and stopping at the beginning) -/
def specSubstring (s : S) (start : Int) (length : Option Int) : S :=
  let n : Int := s.length
  let st : Int := if start < 0 then max 0 (start + n) else start
  let rest := s.drop st.toNat
  match length with
  | some l => rest.take l.toNat
  | none => rest

/-- Go's `if l < len(xs) { xs = xs[:l] }` is `take` -/
theorem take_toNat_guard {α} (xs : List α) (l : Int) :
    (if l < (xs.length : Int) then xs.take l.toNat else xs) = xs.take l.toNat := by
  split
  · rfl
  · exact (List.take_of_length_le (by omega)).symm

/-- Go's `if a > 0 { xs = xs[a:] }` is `drop` -/
theorem drop_toNat_guard {α} (xs : List α) (a : Int) :
    (if a > 0 then xs.drop a.toNat else xs) = xs.drop a.toNat := by
  split
  · rfl
  · rw [show a.toNat = 0 by omega, List.drop_zero]

theorem substring_eq_spec (s : S) (start : Int) (length : Option Int) :
    substring s start length = specSubstring s start length := by
  unfold substring specSubstring
  simp only [drop_toNat_guard, take_toNat_guard]
  -- a start before the beginning is cut off by `toNat` as well as by `max 0`
  rw [show (if start < 0 then max 0 (start + (s.length : Int)) else start).toNat =
      (if start < 0 then start + (s.length : Int) else start).toNat by split <;> omega]
  -- the early exits agree with the general formula: it yields `[]` there
  refine ite_eq_right_iff.mpr fun h => ?_
  have hdrop : start ≥ (s.length : Int) →
      s.drop (if start < 0 then start + (s.length : Int) else start).toNat = [] := fun h =>
    List.drop_eq_nil_of_le (by split <;> omega)
  rcases length with _ | l
  · exact (hdrop (by simpa using h)).symm
  · show [] = List.take l.toNat _
    rcases (by simpa using h : l ≤ 0 ∨ (s.length : Int) ≤ start) with h | h
    · rw [Int.toNat_of_nonpos h, List.take_zero]
    · rw [hdrop h, List.take_nil]

/-- the result never has more code points than asked for -/
theorem substring_length_le (s : S) (start l : Int) (hl : 0 ≤ l) :
    (substring s start (some l)).length ≤ l.toNat := by
  rw [substring_eq_spec]
  simp only [specSubstring, List.length_take]
  omega

theorem cycle_length {ch : S} {n : Nat} (hne : ch ≠ []) : (cycle ch n).length = n := by
  unfold cycle
  simp only [List.length_take, List.length_flatten, List.map_replicate, List.sum_replicate_nat]
  have : n ≤ n * ch.length := Nat.le_mul_of_pos_right n (List.length_pos_iff.mpr hne)
  omega

theorem padChars_ne_nil (chars : Option S) : padChars chars ≠ [] := by
  rcases chars with _ | _ | _ <;> simp [padChars]

/-- the early exit of `pad` is the case of an empty padding -/
theorem pad_eq (s : S) (w : Int) (chars : Option S) :
    pad s w chars =
      if w < 0 then cycle (padChars chars) (w.natAbs - s.length) ++ s
      else s ++ cycle (padChars chars) (w.natAbs - s.length) := by
  unfold pad
  simp only []
  rw [Int.toNat_sub]
  split
  · rw [Nat.sub_eq_zero_of_le (by omega)]
    split
    · rfl
    · exact (List.append_nil s).symm
  · rfl

/-- **$length($pad(s, n)) = max(|n|, $length(s))** for every string, width and pad string -/
theorem pad_length (s : S) (w : Int) (chars : Option S) :
    (pad s w chars).length = max w.natAbs s.length := by
  rw [pad_eq]
  split
  · rw [List.length_append, cycle_length (padChars_ne_nil chars), Nat.sub_add_eq_max]
  · rw [List.length_append, cycle_length (padChars_ne_nil chars), Nat.add_comm, Nat.sub_add_eq_max]

/-- positive widths pad on the right, negative widths on the left, and the original string
    is kept intact -/
theorem pad_side (s : S) (w : Int) (chars : Option S) :
    (0 ≤ w → ∃ p, pad s w chars = s ++ p) ∧ (w < 0 → ∃ p, pad s w chars = p ++ s) := by
  rw [pad_eq]
  exact ⟨fun hw => ⟨_, if_neg (by omega)⟩, fun hw => ⟨_, if_pos hw⟩⟩

theorem indexOf_spec {pat s : S} {i : Nat} (h : indexOf pat s = some i) :
    pat <+: s.drop i ∧ ∀ j < i, pat.isPrefixOf (s.drop j) = false := by
  fun_induction indexOf pat s generalizing i with
  | case1 hp => cases h; exact ⟨List.isEmpty_iff.mp hp ▸ List.nil_prefix, fun j hj => by omega⟩
  | case2 => cases h
  | case3 c cs hp => cases h; exact ⟨List.isPrefixOf_iff_prefix.mp hp, fun j hj => by omega⟩
  | case4 c cs hp ih =>
    obtain ⟨k, hk, rfl⟩ := Option.map_eq_some_iff.mp h
    refine ⟨(ih hk).1, fun j hj => ?_⟩
    cases j with
    | zero => exact Bool.eq_false_iff.mpr hp
    | succ j => exact (ih hk).2 j (by omega)

theorem indexOf_some {pat s : S} {i : Nat} (h : indexOf pat s = some i) :
    s = s.take i ++ pat ++ s.drop (i + pat.length) := by
  have := List.prefix_iff_eq_append.mp (indexOf_spec h).1
  rw [List.append_assoc, ← List.drop_drop, this, List.take_append_drop]

/-- **$substringBefore(s, c) & c & $substringAfter(s, c) = s whenever s contains c**, and
    both return s unchanged when c is absent -/
theorem before_after_concat (s c : S) :
    (contains s c = true → substringBefore s c ++ c ++ substringAfter s c = s) ∧
    (contains s c = false → substringBefore s c = s ∧ substringAfter s c = s) := by
  unfold contains substringBefore substringAfter
  cases h : indexOf c s with
  | none => simp
  | some i =>
    simp only [Option.isSome_some, forall_const, Bool.true_eq_false, false_implies, and_true]
    exact (indexOf_some h).symm

/-- the separator found is the *first* occurrence: the part before it does not contain it
    (for non-empty separators, stated as: no earlier position is a match) -/
theorem indexOf_first (pat s : S) (i : Nat) (h : indexOf pat s = some i) (j : Nat) (hj : j < i) :
    pat.isPrefixOf (s.drop j) = false :=
  (indexOf_spec h).2 j hj

theorem join_eq (parts : List S) (sep : S) :
    join parts sep = ((parts.map (sep ++ ·)).flatten).drop sep.length := by
  cases parts with
  | nil => simp [join]
  | cons p ps => simp [join, List.drop_left']

/-- with the separator put in front of every part, the parts of `splitGo` concatenate to the
    separator, the part under construction and the rest -/
theorem flatten_splitGo (sep : S) (hne : sep ≠ []) (fuel : Nat) (cur rest : S) (hf : rest.length < fuel) :
    ((splitGo sep fuel cur rest).map (sep ++ ·)).flatten = sep ++ (cur.reverse ++ rest) := by
  fun_induction splitGo sep fuel cur rest with
  | case1 => omega
  | case2 => simp
  | case3 fuel cur c cs hp ih =>
    have hlen : ((c :: cs).drop sep.length).length < fuel := by
      have := List.length_pos_iff.mpr hne
      simp only [List.length_drop, List.length_cons] at hf ⊢; omega
    rw [List.map_cons, List.flatten_cons, ih hlen, List.reverse_nil, List.nil_append,
      List.prefix_iff_eq_append.mp (List.isPrefixOf_iff_prefix.mp hp), List.append_assoc]
  | case4 fuel cur c cs hp ih =>
    rw [ih (by simp at hf ⊢; omega)]
    simp

/-- **$join($split(s, c), c) = s** for every string s and every separator c (including the
    empty separator, which splits per code point) -/
theorem split_join (s sep : S) : join (split s sep) sep = s := by
  rw [join_eq, split]
  split
  · rename_i he
    rw [List.isEmpty_iff.mp he]
    simp [← List.flatMap_def, Function.comp_def]
  · rename_i he
    rw [flatten_splitGo sep (by simpa using he) _ [] s (by omega)]
    simp

/-- an empty separator splits into single code points -/
theorem split_empty_sep (s : S) : split s [] = s.map (fun c => [c]) := rfl

/-- the limit truncates the list of parts -/
theorem split_limit (parts : List S) (l : Int) (h0 : 0 ≤ l) :
    applyLimit parts (some l) = parts.take l.toNat :=
  take_toNat_guard parts l

theorem replace_limit_zero (src pat repl : S) : replace src pat repl 0 = src := rfl

/-- a pattern that does not occur leaves the string unchanged -/
theorem replaceGo_absent (pat repl : S) (fuel : Nat) (limit : Int) (rest : S)
    (habs : ∀ j, pat.isPrefixOf (rest.drop j) = false) (hf : rest.length < fuel) :
    replaceGo pat repl fuel limit rest = rest := by
  fun_induction replaceGo pat repl fuel limit rest with
  | case1 => rfl
  | case2 => rfl
  | case3 => rfl
  | case4 fuel limit _ c cs hp => exact absurd hp (Bool.eq_false_iff.mp (habs 0))
  | case5 fuel limit _ c cs hp ih =>
    rw [ih (fun j => by simpa using habs (j + 1)) (by simp at hf ⊢; omega)]

/-- after `$trim` there is no leading whitespace … -/
theorem trim_no_leading (s : S) (c : Char) (cs : S) (h : trim s = c :: cs) : isUniSpace c = false := by
  unfold trim trimSpace at h
  -- trimming the end keeps a prefix of the string trimmed at the start, hence its head
  obtain ⟨t, ht⟩ : c :: cs <+: (collapseWs s).dropWhile isUniSpace :=
    h ▸ List.reverse_suffix.mp (by rw [List.reverse_reverse]; exact List.dropWhile_suffix _)
  have := List.head?_dropWhile_not isUniSpace (collapseWs s)
  rwa [← ht] at this

/-- … and no trailing whitespace -/
theorem trim_no_trailing (s : S) (c : Char) (cs : S) (h : (trim s).reverse = c :: cs) :
    isUniSpace c = false := by
  unfold trim trimSpace at h
  rw [List.reverse_reverse] at h
  have := List.head?_dropWhile_not isUniSpace ((collapseWs s).dropWhile isUniSpace).reverse
  rwa [h] at this

/-! ### codecs: round trips follow from the standard library contracts -/

/-- base64 and URL-component encoding are parameters of the model; the round trip is their
    contract (`decode (encode b) = b`), stated explicitly -/
theorem codec_roundtrip {α β : Type} (encode : α → β) (decode : β → Option α)
    (contract : ∀ a, decode (encode a) = some a) (s : α) : decode (encode s) = some s :=
  contract s

/-! ### non-vacuity -/

example : substring "héllo😀".toList (-3) (some 2) = "lo".toList := by decide +kernel
example : pad "ab".toList (-5) (some "xy".toList) = "xyxab".toList := by decide +kernel
example : split "a,b,,c".toList ",".toList = ["a".toList, "b".toList, [], "c".toList] := by decide +kernel
example : substringBefore "a,b".toList ",".toList ++ ",".toList ++ substringAfter "a,b".toList ",".toList = "a,b".toList := by decide +kernel

end Jsonata.Props.C16
