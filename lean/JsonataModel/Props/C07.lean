/-
  Props/C07.lean — property C07: inputs are never modified; transform returns a modified copy.

  Values of the model are immutable, so "the caller's document is unchanged" cannot even be
  mis-stated there; what carries the property over to the source is (a) the regenerated list
  of mutator call sites (reflect Set/SetMapIndex, sort.*, rand.*), each of which must be on
  the allow-list below with the reason why its receiver is fresh, (b) the order of events in
  transformationCallable.Call (clone, then pattern, then ownership set, then writes), and
  (c) the correspondence, which deep-compares the input before and after every Eval.
-/
import JsonataModel.Lemmas.Assoc
import JsonataModel.Lemmas.Chars
import JsonataModel.Model.Interp
import JsonataModel.Lemmas.Monad
import JsonataModel.Generated.Facts

namespace Jsonata.Props.C07
open Jsonata NumSys

variable {N : Type} [NumSys N]

/-! ### the transform callable -/

/-- exactly one argument -/
theorem transform_arg_count (r : Rec N) (p u : Node N) (d : Option (Node N)) (env : Nat) (s : Store N)
    (a b : Option (Val N)) (rest : List (Option (Val N))) :
    callTransform r p u d env [] s = .error .argCount ∧
    callTransform r p u d env (a :: b :: rest) s = .error .argCount := by
  constructor <;> rfl

/-- an argument that is neither an object nor an array is an argument-type error; no
    argument value gives no value -/
theorem transform_arg_type (r : Rec N) (p u : Node N) (d : Option (Node N)) (env : Nat) (s : Store N)
    (x : N) (t : String) :
    callTransform r p u d env [some (.num x)] s = .error (.argType 1) ∧
    callTransform r p u d env [some (.str t)] s = .error (.argType 1) ∧
    callTransform r p u d env [none] s = .ok (none, s) := by
  refine ⟨?_, ?_, rfl⟩ <;> simp [callTransform, Val.isArr, Val.isObj]

mutual
/-- removing the location tags from a freshly tagged copy gives the copy back -/
theorem untag_tag (v : Val N) (path : List Nat) (hv : NoTag v) : untagVal (tagVal path v) = v := by
  cases v with
  | arr xs => rw [tagVal, untagVal, untag_tag_list xs path 0 hv]
  | obj kvs => rw [tagVal, untagVal, untagKVs, if_pos (beq_self_eq_true _), untag_tag_kvs kvs path 0 hv]
  | _ => rfl
theorem untag_tag_list (xs : List (Val N)) (path : List Nat) (i : Nat) (hv : NoTagL xs) :
    untagList (tagList path i xs) = xs := by
  cases xs with
  | nil => rfl
  | cons x xs => rw [tagList, untagList, untag_tag x (i :: path) hv.1, untag_tag_list xs path (i + 1) hv.2]
theorem untag_tag_kvs (kvs : List (String × Val N)) (path : List Nat) (i : Nat) (hv : NoTagKV kvs) :
    untagKVs (tagKVs path i kvs) = kvs := by
  cases kvs with
  | nil => rfl
  | cons p ps =>
    obtain ⟨k, v⟩ := p
    rw [tagKVs, untagKVs, if_neg (by simpa using hv.1), untag_tag v (i :: path) hv.2.1,
      untag_tag_kvs ps path (i + 1) hv.2.2]
end

/-- **A transform whose pattern selects nothing returns an equal copy of its argument.** -/
theorem transform_nothing_selected (r : Rec N) (p u : Node N) (d : Option (Node N)) (env : Nat)
    (v : Val N) (hv : v.isArr = true ∨ v.isObj = true) (hclean : NoTag (cloneVal v))
    (s s1 : Store N) (hsel : r.ev p (some (tagVal [] (cloneVal v))) env s = .ok (none, s1)) :
    callTransform r p u d env [some v] s = .ok (some (cloneVal v), s1) := by
  have hcont : (!(v.isArr || v.isObj)) = false := by
    rcases hv with h | h <;> simp [h]
  simp only [callTransform, hcont, Bool.false_eq_true, if_false, evalM_bind, evalM_pure, hsel,
    arrayify, List.filterMap_nil, callTransform.go, untag_tag _ _ hclean]

/-! ### the copy the transform works on -/

mutual
/-- a JSON value: no function anywhere inside -/
def Plain : Val N → Prop
  | .arr xs => PlainL xs
  | .obj kvs => PlainKV kvs
  | .null => True | .bool _ => True | .num _ => True | .str _ => True
  | _ => False
def PlainL : List (Val N) → Prop
  | [] => True
  | x :: xs => Plain x ∧ PlainL xs
def PlainKV : List (String × Val N) → Prop
  | [] => True
  | (_, v) :: kvs => Plain v ∧ PlainKV kvs
end

mutual
/-- **The transform's copy of a JSON value is that value** (member for member, element for element) -/
theorem cloneVal_plain : ∀ (v : Val N), Plain v → cloneVal v = v := fun v h => by
  cases v with
  | arr xs => rw [cloneVal, cloneL_plain xs h]
  | obj kvs => rw [cloneVal, cloneKV_plain kvs h]
  | null | bool | num | str => rfl
  | _ => exact h.elim
theorem cloneL_plain : ∀ (xs : List (Val N)), PlainL xs → cloneL xs = xs
  | [], _ => rfl
  | x :: rest, h => by rw [cloneL, cloneVal_plain x h.1, cloneL_plain rest h.2]
theorem cloneKV_plain : ∀ (kvs : List (String × Val N)), PlainKV kvs → cloneKV kvs = kvs
  | [], _ => rfl
  | (k, v) :: rest, h => by rw [cloneKV, cloneVal_plain v h.1, cloneKV_plain rest h.2]
end

mutual
/-- whatever is cloned, the copy is a JSON value (functions have become "") -/
theorem cloneVal_isPlain : ∀ (v : Val N), Plain (cloneVal v) := fun v => by
  cases v with
  | arr xs => exact cloneL_isPlain xs
  | obj kvs => exact cloneKV_isPlain kvs
  | _ => exact True.intro
theorem cloneL_isPlain : ∀ (xs : List (Val N)), PlainL (cloneL xs)
  | [] => True.intro
  | x :: rest => ⟨cloneVal_isPlain x, cloneL_isPlain rest⟩
theorem cloneKV_isPlain : ∀ (kvs : List (String × Val N)), PlainKV (cloneKV kvs)
  | [] => True.intro
  | (k, v) :: rest => ⟨cloneVal_isPlain v, cloneKV_isPlain rest⟩
end

/-- cloning twice is cloning once -/
theorem cloneVal_idem (v : Val N) : cloneVal (cloneVal v) = cloneVal v :=
  cloneVal_plain _ (cloneVal_isPlain v)

/-! ### what an update and a delete do to one selected object -/

/-- **a member set by the update is there afterwards, with the update's value** -/
theorem objSet_get_same (kvs : List (String × Val N)) (k : String) (v : Val N) :
    objGet (objSet kvs k v) k = some v := by
  rw [objGet_objSet, if_pos rfl]

/-- **every other member is what it was** -/
theorem objSet_get_other (kvs : List (String × Val N)) (k k' : String) (v : Val N) (hne : k' ≠ k) :
    objGet (objSet kvs k v) k' = objGet kvs k' := by
  rw [objGet_objSet, if_neg (Ne.symm hne)]

/-- **a deleted name is gone** -/
theorem objDel_get_same (kvs : List (String × Val N)) (k : String) : objGet (objDel kvs k) k = none := by
  rw [objGet_objDel, if_pos rfl]

/-- **and deleting it leaves every other member as it was** -/
theorem objDel_get_other (kvs : List (String × Val N)) (k k' : String) (hne : k' ≠ k) :
    objGet (objDel kvs k) k' = objGet kvs k' := by
  rw [objGet_objDel, if_neg (Ne.symm hne)]

/-- deleting never adds a member and setting never removes one -/
theorem objDel_length_le (kvs : List (String × Val N)) (k : String) : (objDel kvs k).length ≤ kvs.length := by
  unfold objDel; exact List.length_filter_le _ _

theorem objSet_length_ge (kvs : List (String × Val N)) (k : String) (v : Val N) :
    kvs.length ≤ (objSet kvs k v).length := by
  unfold objSet; split <;> simp

/-! ### regenerated facts -/

/-- A mutator call (reflect `Set*`, an in-place `sort`, `big` setters, `rand`) cannot reach the caller's data
    when what it writes to is `local` — a value made in the calling function (make, new, MakeSlice, a call
    result) — wherever in the sources the call stands; `rand.*` only advances the generator.  Such sites are
    accepted by their kind, so that adding or moving one (as the repair F35 did with `sort.Slice` over the fresh
    list of member names) raises no alarm. -/
def localOnly (what : String) : Bool :=
  "local.".toList.isPrefixOf what.toList || "rand.".toList.isPrefixOf what.toList ||
  ["sort.Slice(local)", "sort.SliceStable(local)", "sort.Sort(local)", "sort.Stable(local)",
   "sort.Strings(local)", "sort.Ints(local)", "sort.Float64s(local)"].contains what

/-- the mutator call sites whose target is not local to the calling function, keyed by (file, receiver type of
    the enclosing method, receiver kind + method), with the reason the target is not the caller's data -/
def allowedMutators : List (String × String × String) := [
  ("eval.go", "", "alias:param:reflect.Value.Set"),  -- evalPath/evalObject: the variable is reassigned to a MakeSlice before the write
  ("callable.go", "transformationCallable", "param:reflect.Value.SetMapIndex")]  -- the object belongs to the clone (ownership check)

theorem fact_mutators_accounted :
    Generated.mutatorCalls.all (fun w => localOnly w.2.2 || allowedMutators.contains w) = true := by
  simp only [localOnly, ← chars_eq]
  decide +kernel

/-- an in-place sort or a reflect write whose target is a parameter, a field or a global is not accepted by kind -/
example : localOnly "sort.Slice(param:[]interface{})" = false ∧ localOnly "param:reflect.Value.Set" = false ∧
    localOnly "sort.SliceStable(alias:param:reflect.Value)" = false := by
  simp only [localOnly, ← chars_eq]
  decide +kernel

/-- maps are written only by methods of the transform callable -/
theorem fact_map_writes_only_in_transform :
    (Generated.mutatorCalls.filter (fun w => "SetMapIndex".toList.isSuffixOf w.2.2.toList)).map (·.2.1) =
      ["transformationCallable"] := by
  simp only [← chars_eq]
  decide +kernel

def idx (e : String) (l : List String) : Nat := l.findIdx (· == e)

/-- the transform clones its argument (JSON round trip: Decode) before it evaluates the pattern,
    computes the set of objects owned by the clone (Pointer) before it writes (SetMapIndex) — on the
    trace inlined through package-local helpers, by library calls only, so that renaming or
    regrouping the helpers does not matter -/
theorem fact_transform_order :
    let ev := Generated.transformCallEvents
    ev.contains "call:Decode" = true ∧ ev.contains "call:eval" = true ∧
    ev.contains "call:Pointer" = true ∧ ev.contains "call:SetMapIndex" = true ∧
    idx "call:Decode" ev < idx "call:eval" ev ∧
    idx "call:eval" ev < idx "call:Pointer" ev ∧
    idx "call:Pointer" ev < idx "call:SetMapIndex" ev := by decide +kernel

end Jsonata.Props.C07
