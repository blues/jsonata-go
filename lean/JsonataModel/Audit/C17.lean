-- generated by ./check: axiom audit of Props/C17.lean
import JsonataModel.Props.C17
#print axioms Jsonata.Props.C17.slice_append_drop
#print axioms Jsonata.Props.C17.take_append_slice
#print axioms Jsonata.Props.C17.ordered_le
#print axioms Jsonata.Props.C17.orderedB_iff
#print axioms Jsonata.Props.C17.replaceBack_eq_aux
#print axioms Jsonata.Props.C17.replaceBack_eq_spec
#print axioms Jsonata.Props.C17.replace_by_self
#print axioms Jsonata.Props.C17.splitBy_length
#print axioms Jsonata.Props.C17.replaceSpec_eq_weave
#print axioms Jsonata.Props.C17.split_weave
#print axioms Jsonata.Props.C17.split_no_match
#print axioms Jsonata.Props.C17.satNum_spec
#print axioms Jsonata.Props.C17.pickGroup_some
#print axioms Jsonata.Props.C17.pickGroup_none
#print axioms Jsonata.Props.C17.expand_cons_ne
#print axioms Jsonata.Props.C17.expand_plain
#print axioms Jsonata.Props.C17.expand_rules
#print axioms Jsonata.Props.C17.expand_group
#print axioms Jsonata.Props.C17.regex_apply
#print axioms Jsonata.Props.C17.next_enumerates
#print axioms Jsonata.Props.C17.matchObj_members
#print axioms Jsonata.Props.C17.contains_iff
#print axioms Jsonata.Props.C17.fact_regex_functions
#print axioms Jsonata.Props.C17.regex_flag_letters
