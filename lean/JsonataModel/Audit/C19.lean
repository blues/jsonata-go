-- generated by ./check: axiom audit of Props/C19.lean
import JsonataModel.Props.C19
#print axioms Jsonata.Props.C19.isLeap_iff
#print axioms Jsonata.Props.C19.century_split
#print axioms Jsonata.Props.C19.cycle_split
#print axioms Jsonata.Props.C19.yearOfCycle_split
#print axioms Jsonata.Props.C19.yoe_of_digits
#print axioms Jsonata.Props.C19.month_split
#print axioms Jsonata.Props.C19.le_daysInMonth
#print axioms Jsonata.Props.C19.daysFromCivil_split
#print axioms Jsonata.Props.C19.civilFromDays_spec
#print axioms Jsonata.Props.C19.days_civil_days
#print axioms Jsonata.Props.C19.civil_ranges
#print axioms Jsonata.Props.C19.civil_day_valid
#print axioms Jsonata.Props.C19.weekday_cycle
#print axioms Jsonata.Props.C19.clock_fields
#print axioms Jsonata.Props.C19.date_fields
#print axioms Jsonata.Props.C19.fields_to_millis
#print axioms Jsonata.Props.C19.hour12_rule
#print axioms Jsonata.Props.C19.ordinal_suffixes
#print axioms Jsonata.Props.C19.parseTimeZone_length
#print axioms Jsonata.Props.C19.parseTimeZone_examples
#print axioms Jsonata.Props.C19.parseTimeZone_minutes
#print axioms Jsonata.Props.C19.fields_nat
#print axioms Jsonata.Props.C19.toMillis_formatTime_default
#print axioms Jsonata.Props.C19.toMillis_fromMillis
#print axioms Jsonata.Props.C19.date_tables
#print axioms Jsonata.Props.C19.fact_date_functions
#print axioms Jsonata.Props.C19.fact_one_clock_reading
