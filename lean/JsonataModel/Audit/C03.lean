-- generated by ./check: axiom audit of Props/C03.lean
import JsonataModel.Props.C03
#print axioms Jsonata.Props.C03.numeric_compute
#print axioms Jsonata.Props.C03.numeric_table
#print axioms Jsonata.Props.C03.numeric_value_is_finite
#print axioms Jsonata.Props.C03.negation_table
#print axioms Jsonata.Props.C03.isOrdering_eq
#print axioms Jsonata.Props.C03.ordering_table
#print axioms Jsonata.Props.C03.ordering_numbers
#print axioms Jsonata.Props.C03.ordering_strings
#print axioms Jsonata.Props.C03.valIn_eq_memberOf
#print axioms Jsonata.Props.C03.comparisonOp_equality
#print axioms Jsonata.Props.C03.equalityClass_eq
#print axioms Jsonata.Props.C03.kindOf_eq_missing
#print axioms Jsonata.Props.C03.equality_table
#print axioms Jsonata.Props.C03.eq_scalars
#print axioms Jsonata.Props.C03.eq_arrays
#print axioms Jsonata.Props.C03.boolean_ops
#print axioms Jsonata.Props.C03.boolean_cast
#print axioms Jsonata.Props.C03.boolean_cast_array
#print axioms Jsonata.Props.C03.concat_operands
#print axioms Jsonata.Props.C03.rangeList_eq
#print axioms Jsonata.Props.C03.rangeList_length
#print axioms Jsonata.Props.C03.rangeList_get
#print axioms Jsonata.Props.C03.rangeFromAux_eq
#print axioms Jsonata.Props.C03.rangeFrom_get
#print axioms Jsonata.Props.C03.rangeFrom_length
#print axioms Jsonata.Props.C03.range_numbers
#print axioms Jsonata.Props.C03.range_missing
#print axioms Jsonata.Props.C03.range_wrong_type
#print axioms Jsonata.Props.C03.evalNode_cond
#print axioms Jsonata.Props.C03.cond_true_ignores_else
#print axioms Jsonata.Props.C03.cond_false_ignores_then
#print axioms Jsonata.Props.C03.cond_error
#print axioms Jsonata.Props.C03.fact_maxRangeItems
#print axioms Jsonata.Props.C03.fact_range_guard
#print axioms Jsonata.Props.C03.fact_evalErrKinds
