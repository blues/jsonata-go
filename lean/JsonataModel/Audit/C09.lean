-- generated by ./check: axiom audit of Props/C09.lean
import JsonataModel.Props.C09
#print axioms Jsonata.Props.C09.noCrash_ok
#print axioms Jsonata.Props.C09.noCrash_err
#print axioms Jsonata.Props.C09.noCrash_bind
#print axioms Jsonata.Props.C09.noCrash_map
#print axioms Jsonata.Props.C09.noCrash_ite
#print axioms Jsonata.Props.C09.operators_no_crash
#print axioms Jsonata.Props.C09.argument_checks_no_crash
#print axioms Jsonata.Props.C09.argtypes_no_crash
#print axioms Jsonata.Props.C09.sortKeyCheck_no_crash
#print axioms Jsonata.Props.C09.numbersOf_no_crash
#print axioms Jsonata.Props.C09.aggregates_no_crash
#print axioms Jsonata.Props.C09.stringify_no_crash
#print axioms Jsonata.Props.C09.processArgs_no_crash
#print axioms Jsonata.Props.C09.maxmin_no_crash
#print axioms Jsonata.Props.C09.number_text_no_crash
#print axioms Jsonata.Props.C09.readMatch_no_crash
#print axioms Jsonata.Props.C09.fact_eval_handles_all_nodes
#print axioms Jsonata.Props.C09.placeholder_is_only_crash_site
