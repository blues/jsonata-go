-- generated by ./check: axiom audit of Props/C01.lean
import JsonataModel.Props.C01
#print axioms Jsonata.Props.C01.eq_flatMap
#print axioms Jsonata.Props.C01.flattenStep_eq
#print axioms Jsonata.Props.C01.evalOver_pure
#print axioms Jsonata.Props.C01.evalOver_error
#print axioms Jsonata.Props.C01.evalPathStep_returns
#print axioms Jsonata.Props.C01.evalPathLoop_eq_spec
#print axioms Jsonata.Props.C01.pathInit_eq
#print axioms Jsonata.Props.C01.seqValue_eq_normalise
#print axioms Jsonata.Props.C01.evalPath_returns
#print axioms Jsonata.Props.C01.evalPath_eq_spec
#print axioms Jsonata.Props.C01.normalise_cases
#print axioms Jsonata.Props.C01.anchored_start
#print axioms Jsonata.Props.C01.anchored_through_sort_and_predicate
#print axioms Jsonata.Props.C01.flatten1_append
#print axioms Jsonata.Props.C01.flatten1_cons_unit
#print axioms Jsonata.Props.C01.stepResults_append
#print axioms Jsonata.Props.C01.fieldItemsL_eq
#print axioms Jsonata.Props.C01.field_spec
#print axioms Jsonata.Props.C01.flattenArrL_eq
#print axioms Jsonata.Props.C01.wildcard_spec
#print axioms Jsonata.Props.C01.descendantsL_eq
#print axioms Jsonata.Props.C01.descendantsKV_eq
#print axioms Jsonata.Props.C01.descendants_spec
