-- generated by ./check: axiom audit of Props/C06.lean
import JsonataModel.Props.C06
#print axioms Jsonata.Props.C06.step_copy
#print axioms Jsonata.Props.C06.threadStep_inv
#print axioms Jsonata.Props.C06.run_copy
#print axioms Jsonata.Props.C06.foldl_modify_inv
#print axioms Jsonata.Props.C06.copy_isolated
#print axioms Jsonata.Props.C06.copy_finished
#print axioms Jsonata.Props.C06.copy_no_shared_writes
#print axioms Jsonata.Props.C06.copy_schedule_independent
#print axioms Jsonata.Props.C06.copy_equals_alone
#print axioms Jsonata.Props.C06.copy_seen_prefix
#print axioms Jsonata.Props.C06.step_threads_length
#print axioms Jsonata.Props.C06.run_threads_length
#print axioms Jsonata.Props.C06.run_append
#print axioms Jsonata.Props.C06.shared_protocol_breaks
#print axioms Jsonata.Props.C06.shared_protocol_sequential
#print axioms Jsonata.Props.C06.fact_call_site_copies
#print axioms Jsonata.Props.C06.fact_setters_only_on_copies
#print axioms Jsonata.Props.C06.fact_registry_under_lock
#print axioms Jsonata.Props.C06.fact_env_per_eval
