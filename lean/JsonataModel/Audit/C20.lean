-- generated by ./check: axiom audit of Props/C20.lean
import JsonataModel.Props.C20
#print axioms Jsonata.Props.C20.string_param_only_strings
#print axioms Jsonata.Props.C20.string_arg
#print axioms Jsonata.Props.C20.number_arg
#print axioms Jsonata.Props.C20.any_param
#print axioms Jsonata.Props.C20.undefined_arg
#print axioms Jsonata.Props.C20.undefined_optional
#print axioms Jsonata.Props.C20.optional_set
#print axioms Jsonata.Props.C20.container_params
#print axioms Jsonata.Props.C20.call_undefined_handler
#print axioms Jsonata.Props.C20.call_context_handler
#print axioms Jsonata.Props.C20.convertAll_spec
#print axioms Jsonata.Props.C20.call_arity
#print axioms Jsonata.Props.C20.call_count_error
#print axioms Jsonata.Props.C20.convertAll_first_misfit
#print axioms Jsonata.Props.C20.reg_get_set
#print axioms Jsonata.Props.C20.lookup_regLocal
#print axioms Jsonata.Props.C20.regLocal_same
#print axioms Jsonata.Props.C20.regGlobal_existing
#print axioms Jsonata.Props.C20.compile_snapshot
#print axioms Jsonata.Props.C20.view_stable
#print axioms Jsonata.Props.C20.global_then_compile
#print axioms Jsonata.Props.C20.validParams_rules
#print axioms Jsonata.Props.C20.validName_rules
#print axioms Jsonata.Props.C20.fact_registry_locking
#print axioms Jsonata.Props.C20.fact_env_assembly
