-- generated by ./check: axiom audit of Props/C11.lean
import JsonataModel.Props.C11
#print axioms Jsonata.Props.C11.unescape_cons
#print axioms Jsonata.Props.C11.unescape_esc
#print axioms Jsonata.Props.C11.unescape_plain
#print axioms Jsonata.Props.C11.unescape_simple
#print axioms Jsonata.Props.C11.unescape_unicode
#print axioms Jsonata.Props.C11.json_escape_table
#print axioms Jsonata.Props.C11.fact_parse_rune
#print axioms Jsonata.Props.C11.scalar_literals_denote
#print axioms Jsonata.Props.C11.evalNode_array
#print axioms Jsonata.Props.C11.evalNode_object
#print axioms Jsonata.Props.C11.arrayify_of_not_isArr
#print axioms Jsonata.Props.C11.array_keeps_nested_constructor
#print axioms Jsonata.Props.C11.array_keeps_non_array_value
#print axioms Jsonata.Props.C11.array_no_singleton_collapse
#print axioms Jsonata.Props.C11.evalObject_some
#print axioms Jsonata.Props.C11.object_single_member
#print axioms Jsonata.Props.C11.toVal_isArr
#print axioms Jsonata.Props.C11.arrayItems_lit
#print axioms Jsonata.Props.C11.groupPairs_lit
#print axioms Jsonata.Props.C11.build_lit
#print axioms Jsonata.Props.C11.object_lit
#print axioms Jsonata.Props.C11.uniqueKeysL_eq_all
#print axioms Jsonata.Props.C11.uniqueKeysKV_eq_all
#print axioms Jsonata.Props.C11.denotes_of_size
#print axioms Jsonata.Props.C11.literal_denotes
#print axioms Jsonata.Props.C11.literal_denotes_top
#print axioms Jsonata.Props.C11.duplicate_key_rejected
