-- generated by ./check: axiom audit of Props/C13.lean
import JsonataModel.Props.C13
#print axioms Jsonata.Props.C13.sortLess_eq_lex
#print axioms Jsonata.Props.C13.cmpKey_lawful_of
#print axioms Jsonata.Props.C13.cmpKey_lawful
#print axioms Jsonata.Props.C13.kindPred_none
#print axioms Jsonata.Props.C13.kindPred_mono
#print axioms Jsonata.Props.C13.sortKeyCheck_ok
#print axioms Jsonata.Props.C13.sortKeyCheck_errors
#print axioms Jsonata.Props.C13.orderby_stable_sort
#print axioms Jsonata.Props.C13.orderby_ties_keep_order
#print axioms Jsonata.Props.C13.absent_last
#print axioms Jsonata.Props.C13.descending_reverses
#print axioms Jsonata.Props.C13.sort_numbers_perm
#print axioms Jsonata.Props.C13.sort_numbers_sorted
#print axioms Jsonata.Props.C13.sort_numbers_length
#print axioms Jsonata.Props.C13.sort_numbers_mem
#print axioms Jsonata.Props.C13.sort_numbers_idem
#print axioms Jsonata.Props.C13.goMerge_eq_merge
#print axioms Jsonata.Props.C13.goMerge_perm
#print axioms Jsonata.Props.C13.mergeBy_pure
