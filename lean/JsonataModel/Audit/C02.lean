-- generated by ./check: axiom audit of Props/C02.lean
import JsonataModel.Props.C02
#print axioms Jsonata.Props.C02.allNums_eq_numbersOnly
#print axioms Jsonata.Props.C02.position_eq_some
#print axioms Jsonata.Props.C02.indexHits_eq
#print axioms Jsonata.Props.C02.filterKeep_eq
#print axioms Jsonata.Props.C02.applyFilterLoop_returns
#print axioms Jsonata.Props.C02.applyFilter_returns
#print axioms Jsonata.Props.C02.applyFilterLoop_eq_spec
#print axioms Jsonata.Props.C02.applyFilter_eq_spec
#print axioms Jsonata.Props.C02.applyFilter_error
#print axioms Jsonata.Props.C02.position_nonneg
#print axioms Jsonata.Props.C02.position_neg
#print axioms Jsonata.Props.C02.position_lt
#print axioms Jsonata.Props.C02.filterFrom_replicate_none
#print axioms Jsonata.Props.C02.filterFrom_single
#print axioms Jsonata.Props.C02.filter_positional
#print axioms Jsonata.Props.C02.keepCount_boolean
#print axioms Jsonata.Props.C02.filter_boolean
#print axioms Jsonata.Props.C02.filter_order
#print axioms Jsonata.Props.C02.foldl_specFilter_nil
#print axioms Jsonata.Props.C02.applyFilters_returns
#print axioms Jsonata.Props.C02.evalPredicate_spec
#print axioms Jsonata.Props.C02.predicate_normalises
#print axioms Jsonata.Props.C02.predicate_of_nothing
#print axioms Jsonata.Props.C02.stacked_filters
