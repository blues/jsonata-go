-- generated by ./check: axiom audit of Props/C16.lean
import JsonataModel.Props.C16
#print axioms Jsonata.Props.C16.take_toNat_guard
#print axioms Jsonata.Props.C16.drop_toNat_guard
#print axioms Jsonata.Props.C16.substring_eq_spec
#print axioms Jsonata.Props.C16.substring_length_le
#print axioms Jsonata.Props.C16.cycle_length
#print axioms Jsonata.Props.C16.padChars_ne_nil
#print axioms Jsonata.Props.C16.pad_eq
#print axioms Jsonata.Props.C16.pad_length
#print axioms Jsonata.Props.C16.pad_side
#print axioms Jsonata.Props.C16.indexOf_spec
#print axioms Jsonata.Props.C16.indexOf_some
#print axioms Jsonata.Props.C16.before_after_concat
#print axioms Jsonata.Props.C16.indexOf_first
#print axioms Jsonata.Props.C16.join_eq
#print axioms Jsonata.Props.C16.flatten_splitGo
#print axioms Jsonata.Props.C16.split_join
#print axioms Jsonata.Props.C16.split_empty_sep
#print axioms Jsonata.Props.C16.split_limit
#print axioms Jsonata.Props.C16.replace_limit_zero
#print axioms Jsonata.Props.C16.replaceGo_absent
#print axioms Jsonata.Props.C16.trim_no_leading
#print axioms Jsonata.Props.C16.trim_no_trailing
#print axioms Jsonata.Props.C16.codec_roundtrip
