-- generated by ./check: axiom audit of Props/C12.lean
import JsonataModel.Props.C12
#print axioms Jsonata.Props.C12.newFrame_spec
#print axioms Jsonata.Props.C12.newFrame_wf
#print axioms Jsonata.Props.C12.bindSyms_find
#print axioms Jsonata.Props.C12.bindVar_get_ne
#print axioms Jsonata.Props.C12.bindVar_get_self
#print axioms Jsonata.Props.C12.lookupIn_congr
#print axioms Jsonata.Props.C12.binding_invisible_outside
#print axioms Jsonata.Props.C12.binding_visible_later
#print axioms Jsonata.Props.C12.binding_visible_in_inner
#print axioms Jsonata.Props.C12.function_sees_itself
#print axioms Jsonata.Props.C12.block_new_scope
#print axioms Jsonata.Props.C12.assignment_binds
#print axioms Jsonata.Props.C12.closure_captures_definition_site
#print axioms Jsonata.Props.C12.closure_call
#print axioms Jsonata.Props.C12.bindParams_missing_surplus
#print axioms Jsonata.Props.C12.call_non_function
#print axioms Jsonata.Props.C12.chain_call_spec
#print axioms Jsonata.Props.C12.chain_compose_spec
#print axioms Jsonata.Props.C12.evalNode_apply
#print axioms Jsonata.Props.C12.chain_value_or_compose
#print axioms Jsonata.Props.C12.partialArgs_returns
#print axioms Jsonata.Props.C12.partialArgs_spec
#print axioms Jsonata.Props.C12.partial_spec
#print axioms Jsonata.Props.C12.partial_non_function
#print axioms Jsonata.Props.C12.builtin_context_is_call_site
#print axioms Jsonata.Props.C12.builtin_call_uses_given_context
#print axioms Jsonata.Props.C12.padOptional_eq_self
#print axioms Jsonata.Props.C12.context_insertion
#print axioms Jsonata.Props.C12.optional_padding
#print axioms Jsonata.Props.C12.untyped_accepts_all
#print axioms Jsonata.Props.C12.type_letters
#print axioms Jsonata.Props.C12.array_subtype
#print axioms Jsonata.Props.C12.argcount_plain
#print axioms Jsonata.Props.C12.variadic_collects
