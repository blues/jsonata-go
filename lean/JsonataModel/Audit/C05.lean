-- generated by ./check: axiom audit of Props/C05.lean
import JsonataModel.Props.C05
#print axioms Jsonata.Props.C05.ast_unchanged
#print axioms Jsonata.Props.C05.runHistory_eq
#print axioms Jsonata.Props.C05.history_independent
#print axioms Jsonata.Props.C05.eval_fresh_env
#print axioms Jsonata.Props.C05.history_pointwise
#print axioms Jsonata.Props.C05.history_equal_inputs
#print axioms Jsonata.Props.C05.history_append
#print axioms Jsonata.Props.C05.runProcess_eq
#print axioms Jsonata.Props.C05.process_worlds_unchanged
#print axioms Jsonata.Props.C05.process_pointwise
#print axioms Jsonata.Props.C05.filterMap_zip_map
#print axioms Jsonata.Props.C05.process_other_expressions_irrelevant
#print axioms Jsonata.Props.C05.fact_writes_accounted
#print axioms Jsonata.Props.C05.fact_no_ast_write
#print axioms Jsonata.Props.C05.fact_call_copies_builtin
#print axioms Jsonata.Props.C05.fact_chain_builds_call
#print axioms Jsonata.Props.C05.fact_new_env_per_eval
