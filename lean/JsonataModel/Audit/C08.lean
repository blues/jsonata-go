-- generated by ./check: axiom audit of Props/C08.lean
import JsonataModel.Props.C08
#print axioms Jsonata.Props.C08.decodeRune_width
#print axioms Jsonata.Props.C08.nextRune_inv
#print axioms Jsonata.Props.C08.nextRune_progress
#print axioms Jsonata.Props.C08.backup_after_next
#print axioms Jsonata.Props.C08.backup_inv
#print axioms Jsonata.Props.C08.backup_idempotent
#print axioms Jsonata.Props.C08.accept_inv
#print axioms Jsonata.Props.C08.newToken_in_range
#print axioms Jsonata.Props.C08.lexError_position
#print axioms Jsonata.Props.C08.next_progress
#print axioms Jsonata.Props.C08.next_noneof_lt
#print axioms Jsonata.Props.C08.lexAll_terminates
#print axioms Jsonata.Props.C08.next_ge
#print axioms Jsonata.Props.C08.fact_parse_error_enum
#print axioms Jsonata.Props.C08.typed_not_fuel
#print axioms Jsonata.Props.C08.lexErr_typed
#print axioms Jsonata.Props.C08.typed_err
#print axioms Jsonata.Props.C08.Fine.mono
#print axioms Jsonata.Props.C08.Fine.bind
#print axioms Jsonata.Props.C08.Fine.bind2
#print axioms Jsonata.Props.C08.advance_fine
#print axioms Jsonata.Props.C08.consume_fine
#print axioms Jsonata.Props.C08.Fine.close
#print axioms Jsonata.Props.C08.GoodPE.keeps
#print axioms Jsonata.Props.C08.Fine.more
#print axioms Jsonata.Props.C08.parseList_fine
#print axioms Jsonata.Props.C08.sigLoop_fine
#print axioms Jsonata.Props.C08.types_typed
#print axioms Jsonata.Props.C08.parseParams_typed
#print axioms Jsonata.Props.C08.parsePairs_fine
#print axioms Jsonata.Props.C08.parseBlockExprs_fine
#print axioms Jsonata.Props.C08.parseSortTerms_fine
#print axioms Jsonata.Props.C08.parseArgs_fine
#print axioms Jsonata.Props.C08.parseParamNames_fine
#print axioms Jsonata.Props.C08.nud_fine
#print axioms Jsonata.Props.C08.led_fine
#print axioms Jsonata.Props.C08.bp_eof
#print axioms Jsonata.Props.C08.ledLoop_fine
#print axioms Jsonata.Props.C08.parseExpr_fine
#print axioms Jsonata.Props.C08.parse_never_out_of_fuel
#print axioms Jsonata.Props.C08.optErr_typed
#print axioms Jsonata.Props.C08.OptOk.bind
#print axioms Jsonata.Props.C08.optimize_ok
#print axioms Jsonata.Props.C08.optimizeL_ok
#print axioms Jsonata.Props.C08.optimizeP_ok
#print axioms Jsonata.Props.C08.optimizeT_ok
#print axioms Jsonata.Props.C08.optimize_err
#print axioms Jsonata.Props.C08.optimizeL_err
#print axioms Jsonata.Props.C08.optimizeP_err
#print axioms Jsonata.Props.C08.optimizeT_err
#print axioms Jsonata.Props.C08.parse_error_typed
#print axioms Jsonata.Props.C08.parse_never_fuel
#print axioms Jsonata.Props.C08.unbalanced_signature_is_error
#print axioms Jsonata.Props.C08.getBracketed_go_length
#print axioms Jsonata.Props.C08.getBracketed_length
#print axioms Jsonata.Props.C08.unescape_hex_strict
