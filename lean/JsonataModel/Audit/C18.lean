-- generated by ./check: axiom audit of Props/C18.lean
import JsonataModel.Props.C18
#print axioms Jsonata.Props.C18.halfEven_cases
#print axioms Jsonata.Props.C18.halfEven_nearest
#print axioms Jsonata.Props.C18.halfEven_tie_even
#print axioms Jsonata.Props.C18.halfEven_exact
#print axioms Jsonata.Props.C18.roundScaled_exact
#print axioms Jsonata.Props.C18.roundScaled_nearest
#print axioms Jsonata.Props.C18.digitVal_digitChar
#print axioms Jsonata.Props.C18.digitChar_ne_minus
#print axioms Jsonata.Props.C18.toBase_reads_back
#print axioms Jsonata.Props.C18.toBase_sign
#print axioms Jsonata.Props.C18.formatBase_bad_radix
#print axioms Jsonata.Props.C18.strip_append
#print axioms Jsonata.Props.C18.strip_id
#print axioms Jsonata.Props.C18.strip_insert
#print axioms Jsonata.Props.C18.sepAtRight_strip
#print axioms Jsonata.Props.C18.sepAtRight_head
#print axioms Jsonata.Props.C18.sepAtLeft_strip
#print axioms Jsonata.Props.C18.sepEvery_go_strip
#print axioms Jsonata.Props.C18.sepEvery_strip
#print axioms Jsonata.Props.C18.formatInteger_digits
#print axioms Jsonata.Props.C18.formatFractional_digits
#print axioms Jsonata.Props.C18.formatInteger_min_digits
#print axioms Jsonata.Props.C18.numberString_spec
#print axioms Jsonata.Props.C18.normalise_preserves
#print axioms Jsonata.Props.C18.normalise_in_range
#print axioms Jsonata.Props.C18.dropWhile_digits_append
#print axioms Jsonata.Props.C18.digits1_iff
#print axioms Jsonata.Props.C18.digit_head
#print axioms Jsonata.Props.C18.stripMinus_iff
#print axioms Jsonata.Props.C18.stripSign_iff
#print axioms Jsonata.Props.C18.expOk_iff
#print axioms Jsonata.Props.C18.expo_head
#print axioms Jsonata.Props.C18.fracStep_iff
#print axioms Jsonata.Props.C18.reNumber_iff
#print axioms Jsonata.Props.C18.ltPow10_iff
#print axioms Jsonata.Props.C18.gtPow10_iff
#print axioms Jsonata.Props.C18.lt_gt_excl
#print axioms Jsonata.Props.C18.gt_measure
#print axioms Jsonata.Props.C18.normalise_reaches_range
#print axioms Jsonata.Props.C18.normalise_terminates
#print axioms Jsonata.Props.C18.normalise_fuel_800
#print axioms Jsonata.Props.C18.countWhere_le
#print axioms Jsonata.Props.C18.analyse_minFrac_le_maxFrac
#print axioms Jsonata.Props.C18.formatNumber_rejects
#print axioms Jsonata.Props.C18.mapZero_ascii
#print axioms Jsonata.Props.C18.decimal_format_defaults
#print axioms Jsonata.Props.C18.fact_number_functions
