-- generated by ./check: axiom audit of Props/C15.lean
import JsonataModel.Props.C15
#print axioms Jsonata.Props.C15.libMap_go_spec
#print axioms Jsonata.Props.C15.map_eq_spec
#print axioms Jsonata.Props.C15.libFilter_go_spec
#print axioms Jsonata.Props.C15.filter_eq_spec
#print axioms Jsonata.Props.C15.filterSpec_sublist
#print axioms Jsonata.Props.C15.single_spec
#print axioms Jsonata.Props.C15.libReduce_go_spec
#print axioms Jsonata.Props.C15.reduce_eq_spec
#print axioms Jsonata.Props.C15.reduce_requires_arity_two
#print axioms Jsonata.Props.C15.scalar_is_singleton
#print axioms Jsonata.Props.C15.append_spec
#print axioms Jsonata.Props.C15.reverse_spec
#print axioms Jsonata.Props.C15.distinctL_sublist
#print axioms Jsonata.Props.C15.distinctL_not_seen
#print axioms Jsonata.Props.C15.distinctL_pairwise_rev
#print axioms Jsonata.Props.C15.distinctL_pairwise
#print axioms Jsonata.Props.C15.distinctL_complete
#print axioms Jsonata.Props.C15.distinct_kinds
#print axioms Jsonata.Props.C15.zipL_length_of
#print axioms Jsonata.Props.C15.zipL_length
#print axioms Jsonata.Props.C15.shuffleStep_perm
#print axioms Jsonata.Props.C15.shuffle_perm
#print axioms Jsonata.Props.C15.aggregate_empty_rules
#print axioms Jsonata.Props.C15.sum_spec
#print axioms Jsonata.Props.C15.aggregate_non_numeric
