-- generated by ./check: axiom audit of Props/C07.lean
import JsonataModel.Props.C07
#print axioms Jsonata.Props.C07.transform_arg_count
#print axioms Jsonata.Props.C07.transform_arg_type
#print axioms Jsonata.Props.C07.untag_tag
#print axioms Jsonata.Props.C07.untag_tag_list
#print axioms Jsonata.Props.C07.untag_tag_kvs
#print axioms Jsonata.Props.C07.transform_nothing_selected
#print axioms Jsonata.Props.C07.cloneVal_plain
#print axioms Jsonata.Props.C07.cloneL_plain
#print axioms Jsonata.Props.C07.cloneKV_plain
#print axioms Jsonata.Props.C07.cloneVal_isPlain
#print axioms Jsonata.Props.C07.cloneL_isPlain
#print axioms Jsonata.Props.C07.cloneKV_isPlain
#print axioms Jsonata.Props.C07.cloneVal_idem
#print axioms Jsonata.Props.C07.objSet_get_same
#print axioms Jsonata.Props.C07.objSet_get_other
#print axioms Jsonata.Props.C07.objDel_get_same
#print axioms Jsonata.Props.C07.objDel_get_other
#print axioms Jsonata.Props.C07.objDel_length_le
#print axioms Jsonata.Props.C07.objSet_length_ge
#print axioms Jsonata.Props.C07.fact_mutators_accounted
#print axioms Jsonata.Props.C07.fact_map_writes_only_in_transform
#print axioms Jsonata.Props.C07.fact_transform_order
