-- generated by ./check: axiom audit of Props/C14.lean
import JsonataModel.Props.C14
#print axioms Jsonata.Props.C14.groupItemsLoop_fold
#print axioms Jsonata.Props.C14.groupItemsLoop_eq_fold
#print axioms Jsonata.Props.C14.group_illegal_key
#print axioms Jsonata.Props.C14.groupsOK_empty
#print axioms Jsonata.Props.C14.itemsOf_groupAddKey
#print axioms Jsonata.Props.C14.groupAddKey_ok
#print axioms Jsonata.Props.C14.groupFold_partition
#print axioms Jsonata.Props.C14.group_each_item_once
#print axioms Jsonata.Props.C14.group_order
#print axioms Jsonata.Props.C14.group_duplicate_key
#print axioms Jsonata.Props.C14.literal_duplicate_key
#print axioms Jsonata.Props.C14.keys_object
#print axioms Jsonata.Props.C14.dedupStr_spec
#print axioms Jsonata.Props.C14.keys_array_nodup_complete
#print axioms Jsonata.Props.C14.spread_object
#print axioms Jsonata.Props.C14.spread_count_eq_keys_count
#print axioms Jsonata.Props.C14.libMerge_arr
#print axioms Jsonata.Props.C14.objGet_foldl_objSet
#print axioms Jsonata.Props.C14.objGet_reverse
#print axioms Jsonata.Props.C14.merge_later_wins
#print axioms Jsonata.Props.C14.foldl_objSet_fresh
#print axioms Jsonata.Props.C14.merge_spread_id
#print axioms Jsonata.Props.C14.lookup_eq_field
