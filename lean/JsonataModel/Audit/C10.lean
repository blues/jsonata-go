-- generated by ./check: axiom audit of Props/C10.lean
import JsonataModel.Props.C10
#print axioms Jsonata.Props.C10.undefined_iff_none
#print axioms Jsonata.Props.C10.arithmetic_closed
#print axioms Jsonata.Props.C10.finiteOr_closed
#print axioms Jsonata.Props.C10.sum_closed
#print axioms Jsonata.Props.C10.finiteL_iff
#print axioms Jsonata.Props.C10.finiteKV_iff
#print axioms Jsonata.Props.C10.array_closed
#print axioms Jsonata.Props.C10.object_closed
#print axioms Jsonata.Props.C10.array_members_closed
#print axioms Jsonata.Props.C10.literals_closed
#print axioms Jsonata.Props.C10.closed_no_nonfinite
#print axioms Jsonata.Props.C10.evalBytes_spec
#print axioms Jsonata.Props.C10.evalBytes_rejects_non_json
#print axioms Jsonata.Props.C10.closed_iff_marshals
#print axioms Jsonata.Props.C10.closedL_iff
#print axioms Jsonata.Props.C10.closedKV_iff
#print axioms Jsonata.Props.C10.closed_has_string
#print axioms Jsonata.Props.C10.evalBytes_agrees
#print axioms Jsonata.Props.C10.fact_evalBytes_shape
#print axioms Jsonata.Props.C10.fact_eval_conversion
