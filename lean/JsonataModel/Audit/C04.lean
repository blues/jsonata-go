-- generated by ./check: axiom audit of Props/C04.lean
import JsonataModel.Props.C04
#print axioms Jsonata.Props.C04.model_rows_eq_spec
#print axioms Jsonata.Props.C04.fact_bps_rows
#print axioms Jsonata.Props.C04.fact_bp_step
#print axioms Jsonata.Props.C04.fact_token_types
#print axioms Jsonata.Props.C04.bp_table
#print axioms Jsonata.Props.C04.rows_strictly_ordered
#print axioms Jsonata.Props.C04.rows_equal_power
#print axioms Jsonata.Props.C04.ledLoop_stops
#print axioms Jsonata.Props.C04.ledLoop_continues
#print axioms Jsonata.Props.C04.fact_pratt_loop_cond
#print axioms Jsonata.Props.C04.binary_left_assoc
#print axioms Jsonata.Props.C04.dot_left_assoc
#print axioms Jsonata.Props.C04.assign_right_assoc
#print axioms Jsonata.Props.C04.led_bin
#print axioms Jsonata.Props.C04.fact_led_right_binding_powers
#print axioms Jsonata.Props.C04.fact_dispatch_tables
#print axioms Jsonata.Props.C04.led_iff_bp
#print axioms Jsonata.Props.C04.keywords_as_names
#print axioms Jsonata.Props.C04.symbol_tables
#print axioms Jsonata.Props.C04.reads_advance
#print axioms Jsonata.Props.C04.nud_minus
#print axioms Jsonata.Props.C04.nud_paren
#print axioms Jsonata.Props.C04.led_pred
#print axioms Jsonata.Props.C04.led_cond
#print axioms Jsonata.Props.C04.nud_atom
#print axioms Jsonata.Props.C04.wf_leaf
#print axioms Jsonata.Props.C04.nud_ok_starter
#print axioms Jsonata.Props.C04.parseExpr_step
#print axioms Jsonata.Props.C04.parseExpr_ok_starter
#print axioms Jsonata.Props.C04.bin_bp
#print axioms Jsonata.Props.C04.assign_le_top
#print axioms Jsonata.Props.C04.top_pos
#print axioms Jsonata.Props.C04.stop_le_top
#print axioms Jsonata.Props.C04.inLoop_stops
#print axioms Jsonata.Props.C04.InLoop.of_nud
#print axioms Jsonata.Props.C04.InLoop.led
#print axioms Jsonata.Props.C04.leftOperand
#print axioms Jsonata.Props.C04.operand
#print axioms Jsonata.Props.C04.bracketed
#print axioms Jsonata.Props.C04.parse_into_loop
#print axioms Jsonata.Props.C04.parse_reads_back
#print axioms Jsonata.Props.C04.parse_reads_back_budget
#print axioms Jsonata.Props.C04.same_tokens_same_parse
#print axioms Jsonata.Props.C04.groups_left
#print axioms Jsonata.Props.C04.groups_right
#print axioms Jsonata.Props.C04.paren_is_operand
#print axioms Jsonata.Props.C04.Stream.of_lexes
#print axioms Jsonata.Props.C04.exWF
#print axioms Jsonata.Props.C04.exStream
#print axioms Jsonata.Props.C04.exWF2
#print axioms Jsonata.Props.C04.exStream2
#print axioms Jsonata.Props.C04.exWF3
#print axioms Jsonata.Props.C04.exStream3
